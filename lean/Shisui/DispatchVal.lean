import Shisui.Dispatch
import Shisui.Trie.Basic
/-! # C01 model, part 2: trie traversal with named panic sites, the validators and the state adapter's `Put`

The validators' inputs are described by *shapes*: what the generator knows by construction about the key and the
content it built (e.g. "a merge-era header with an internally consistent execution-block branch and slot `s`").
Byte strings whose structure is not known (`raw`) are decided by dependency decoders: the model answers `handled`. -/
namespace Dp
open Tr (Node matchKey matchKey_ok)

/-- outcome of `TraverseTrieNode`, panics carrying the kind of run-time error -/
inductive TOut where
  | ok (ref : List Nat) (rest : List Nat)
  | err
  | panic (kind : String)
deriving DecidableEq, Repr

/-- `state/trie/utils.go: TraverseTrieNode`. `qk`: `v.Key[length-1]` unguarded; `qp`: `path[index]` unguarded.
    With both switches on this is `Tr.traverse` (`Props.C01.traverse_asIs_is_Tr`). -/
def traverseQ (qk qp : Bool) (n : Node) (path : List Nat) : TOut :=
  match n, path with
  | .full _, [] => .err
  | .full cs, p :: ps =>
    match cs[p]? with
    | none => .panic "idx"                              -- v.Children[first]: never for nibbles of a decoded key
    | some c => traverseQ qk qp c ps
  | .short key val, path =>
    match hg : key.getLast? with
    | none => if qk then .panic "idxneg" else .err      -- v.Key[length-1] with length 0
    | some last =>
      if last = 16 then
        if key.dropLast = [] then .err
        else if key.dropLast ≠ path then .err
        else match val with
          | .value v => .ok v path
          | _ => .panic "conv"                          -- (v.Val).(valueNode): never for a decoded node
      else
        match hm : matchKey key path with
        | .ok _ rest => traverseQ qk qp val rest
        | .err => .err
        | .panic => if qp then .panic "idx" else .err   -- path[index] beyond the path
  | .hash h, path => .ok h path
  | .value _, _ => .err
  | .empty, _ => .err
termination_by path.length
decreasing_by
  · simp
  · have := matchKey_ok key path _ rest hm
    have hk : key ≠ [] := by
      intro h; subst h; simp at hg
    have : 0 < key.length := List.length_pos_iff.mpr hk
    rw [‹path = key ++ rest ∧ _›.1]
    simp; omega

def TOut.erase : TOut → Tr.Outcome
  | .ok r p => .ok r p
  | .err => .err
  | .panic _ => .panic

/-- what `DecodeTrieNode` guarantees: full nodes have 17 slots, a key ending in the terminator holds a value -/
def WfNode : Node → Prop
  | .full cs => cs.length = 17 ∧ ∀ c ∈ cs, WfNode c
  | .short key val => (key.getLast? = some 16 → ∃ v, val = .value v) ∧ WfNode val
  | _ => True

def wfNodeB : Node → Bool
  | .full cs => cs.length == 17 && cs.attach.all (fun c => wfNodeB c.1)
  | .short key val => (key.getLast? != some 16 || (match val with | .value _ => true | _ => false)) && wfNodeB val
  | _ => true
termination_by n => sizeOf n
decreasing_by
  · have := List.sizeOf_lt_of_mem c.2
    simp only [Node.full.sizeOf_spec]; omega
  · simp only [Node.short.sizeOf_spec]; omega

/-! ## state/storage.go `Put` -/

inductive StateShape where
  | acc (np : Nat) (hm : Bool)     -- account trie node: proof length, last node hashes to the key's node hash
  | con (np : Nat) (hm : Bool)     -- contract storage trie node: storage-proof length, hash match
  | code (hm : Bool)               -- bytecode: code hashes to the key's code hash
  | vec                            -- a repo vector (valid)
  | raw                            -- bytes of unknown structure
deriving DecidableEq, Repr

def statePut (q : Quirks) (key : List Nat) (shape : StateShape) : Out :=
  match key with
  | [] => guard1 q.stateKey "state.Storage.Put:idx" .err
  | t :: _ =>
    match shape with
    | .acc np hm =>
      if np = 0 then guard1 q.stateProof "state.Storage.putAccountTrieNode:idxneg" .err
      else if hm then .ok else .err
    | .con np hm =>
      if np = 0 then guard1 q.stateProof "state.Storage.putContractStorageTrieNode:idxneg" .err
      else if hm then .ok else .err
    | .code hm => if hm then .ok else .err
    | .vec => .ok
    | .raw => if t = 0x20 ∨ t = 0x21 ∨ t = 0x22 then .handled else .err

/-! ## The validators -/

inductive HistShape where
  | vec                                              -- a repo vector with the header it belongs to
  | roots (exec : Bool) (slot nroots : Nat)          -- merge..capella header, execution branch consistent or not
  | body (hdrHasWd bodyHasWd wdMatch : Bool)         -- block body against the header the source reports
  | raw
deriving DecidableEq, Repr

def historyValidate (q : Quirks) (key : List Nat) (shape : HistShape) : Out :=
  match key with
  | [] => guard1 q.histVal "history.HistoryValidator.ValidateContent:idx" .err
  | t :: _ =>
    match shape with
    | .vec => .ok
    | .roots exec slot nroots =>
      if !exec then .err
      else if slot / 8192 < nroots then .err     -- the beacon-block branch is random: Merkle check fails
      else guard1 q.rootsIndex "validation.HeaderValidator.validateMergeToCapellaHeader:idx" .err
    | .body hw bw wm =>
      if !bw then (if hw then .err else .ok)     -- legacy body: fits only a header without a withdrawals root (265171a)
      else if !hw then guard1 q.withdrawalsNil "history.validateBlockBody:nil" .err
      else if wm then .ok else .err
    | .raw => if t ≤ 3 then .handled else .err

inductive StShape where
  | vec
  | acct2 (n1 : Option Node) (path : List Nat) (link nh : Bool)
  | raw

def stateValidate (q : Quirks) (key : List Nat) (shape : StShape) : Out :=
  match key with
  | [] => guard1 q.stateVal "state.StateValidator.ValidateContent:idx" .err
  | t :: _ =>
    match shape with
    | .vec => .ok
    | .acct2 n1 path link nh =>
      match n1 with
      | none => .err                              -- DecodeTrieNode failed
      | some n =>
        match traverseQ q.trieEmptyKey q.triePath n path with
        | .panic k => .panic ("trie.TraverseTrieNode:" ++ k)
        | .err => .err
        | .ok _ rest =>
          if !link then .err                      -- the second node does not hash to the reference
          else if rest ≠ [] then .err             -- "path is too long"
          else if nh then .ok else .err
    | .raw => if t = 0x20 ∨ t = 0x21 ∨ t = 0x22 then .handled else .err

def beaconValidate (q : Quirks) (key : List Nat) : Out :=
  match key with
  | [] => guard1 q.beaconVal "beacon.BeaconValidator.ValidateContent:idx" .err
  | t :: _ => if 0x10 ≤ t ∧ t ≤ 0x14 then .handled else .err

end Dp
