import Shisui.Varint
/-! The LEB128 calibration prototype (DESIGN.md, Appendix A). It keeps its own copies of `Fr.enc`, `Fr.decAux` and
    `Fr.dec` (Varint.lean), proved equal to them (`enc_eq`, `decAux_eq`); the theory lives there. -/
namespace Leb
def enc (v : Nat) : List Nat :=
  if h : v < 128 then [v] else (v % 128 + 128) :: enc (v / 128)
termination_by v
decreasing_by omega

def decAux (i s acc : Nat) : List Nat → Option (Nat × Nat)
  | [] => none
  | b :: rest =>
    if i ≥ 5 then none
    else if b < 128 then
      if i = 4 ∧ b ≥ 16 then none
      else some (acc + b * 2 ^ s, i + 1)
    else decAux (i+1) (s+7) (acc + (b % 128) * 2 ^ s) rest

def dec (l : List Nat) : Option (Nat × Nat) := decAux 0 0 0 l

theorem enc_eq : enc = Fr.enc := by
  funext v
  fun_induction enc v with
  | case1 v h => rw [Fr.enc_lt h]
  | case2 v h ih => rw [Fr.enc_ge h, ih]

theorem decAux_eq : decAux = Fr.decAux := by
  funext i s acc l
  induction l generalizing i s acc with
  | nil => rfl
  | cons b rest ih => rw [decAux, Fr.decAux, ih]

theorem decAux_enc (v : Nat) : ∀ (i s acc : Nat) (rest : List Nat),
    i ≤ 4 → v < 2 ^ (32 - 7 * i) →
    decAux i s acc (enc v ++ rest) = some (acc + v * 2 ^ s, i + (enc v).length) := by
  rw [enc_eq, decAux_eq]
  exact Fr.decAux_enc v

theorem dec_enc (v : Nat) (rest : List Nat) (h : v < 2^32) :
    dec (enc v ++ rest) = some (v, (enc v).length) := by
  rw [dec, enc_eq, decAux_eq]
  exact Fr.dec_enc v rest h
end Leb
