import Shisui.Table.Model
/-! The structural invariant of the routing table (C07) and its theory, without reference to any operation:
    counting by `delta`, one node picked out of a list as a permutation, and the two lemmas behind every step that
    changes a table — `inv_update` (only one bucket changes) and `Inv.exchange` (in that bucket some nodes leave, some
    enter, and the counters follow). -/
namespace Tb

def isIn (s : Nat) (n : TNode) : Bool := !n.r.addr.lan && n.r.addr.subnet == s
/-- the number of nodes of `l` with a non-LAN address in the /24 `s`: what the counters have to cover -/
def real (l : List TNode) (s : Nat) : Nat := l.countP (isIn s)
def nodes (b : Bucket) : List TNode := b.entries ++ b.reps

structure BInv (bo : Nat → Nat) (me : Nat) (i : Nat) (b : Bucket) : Prop where
  sizeE : b.entries.length ≤ bucketSize
  sizeR : b.reps.length ≤ maxReps
  place : ∀ n ∈ nodes b, bo n.r.id = i ∧ n.r.id ≠ me ∧ n.r.addr.valid = true
  nodup : ((nodes b).map (·.r.id)).Nodup
  cnt : ∀ s, real (nodes b) s ≤ b.ips s ∧ b.ips s ≤ bLimit

def sumTo (n : Nat) (f : Nat → Nat) : Nat := ((List.range n).map f).sum

def sumReal (t : Table) (s : Nat) : Nat := sumTo nBuckets (fun i => real (nodes (t.bkt i)) s)

structure Inv (bo : Nat → Nat) (t : Table) : Prop where
  b : ∀ i, BInv bo t.self i (t.bkt i)
  tcnt : ∀ s, sumReal t s ≤ t.ips s ∧ t.ips s ≤ tLimit

open List

theorem sumTo_succ (n : Nat) (f : Nat → Nat) : sumTo (n+1) f = sumTo n f + f n := by
  simp [sumTo, List.range_succ]

theorem sumTo_upd (a b : Nat → Nat) (i n : Nat) (h : ∀ k, k ≠ i → a k = b k) (hi : i < n) :
    sumTo n a + b i = sumTo n b + a i := by
  -- induction on `n` needs both regimes: up to `i` the sums agree, beyond `i` they differ by the two values at `i`
  suffices ∀ n, (n ≤ i → sumTo n a = sumTo n b) ∧ (i < n → sumTo n a + b i = sumTo n b + a i) from (this n).2 hi
  intro n
  induction n with
  | zero => exact ⟨fun _ => rfl, fun h => absurd h (Nat.not_lt_zero _)⟩
  | succ n ih =>
    rw [sumTo_succ, sumTo_succ]
    by_cases hn : n = i
    · subst hn
      refine ⟨fun h => absurd h (Nat.not_succ_le_self _), fun _ => ?_⟩
      rw [ih.1 (Nat.le_refl _)]; exact Nat.add_right_comm ..
    · rw [h n hn]
      refine ⟨fun hle => by rw [ih.1 (Nat.le_of_succ_le hle)], fun hlt => ?_⟩
      rw [Nat.add_right_comm, ih.2 (Nat.lt_of_le_of_ne (Nat.le_of_lt_succ hlt) (Ne.symm hn)), Nat.add_right_comm]

theorem le_sumTo (f : Nat → Nat) (n i : Nat) (h : i < n) : f i ≤ sumTo n f := by
  induction n with
  | zero => exact absurd h (Nat.not_lt_zero _)
  | succ n ih =>
    rw [sumTo_succ]
    rcases Nat.lt_succ_iff_lt_or_eq.mp h with h | rfl
    · exact Nat.le_trans (ih h) (Nat.le_add_right ..)
    · exact Nat.le_add_left ..

/-- contribution of an address to the counter of subnet `s` -/
def delta (a : Addr) (s : Nat) : Nat := if !a.lan && a.subnet == s then 1 else 0

/-- `delta` of a node's address is the indicator of `isIn`, which `real` counts -/
theorem delta_isIn (n : TNode) (s : Nat) : delta n.r.addr s = if isIn s n = true then 1 else 0 := rfl

theorem delta_le_one (a : Addr) (s : Nat) : delta a s ≤ 1 := by
  unfold delta; split
  · exact Nat.le_refl 1
  · exact Nat.zero_le 1

theorem delta_eq_one {a : Addr} {s : Nat} : delta a s = 1 ↔ a.lan = false ∧ a.subnet = s := by
  unfold delta; cases a.lan <;> simp

theorem isIn_subnet (s : Nat) (n : TNode) (h : isIn s n = true) : n.r.addr.lan = false ∧ n.r.addr.subnet = s := by
  simpa [isIn] using h

theorem real_le_one_of_single (n : TNode) (s : Nat) : (if isIn s n = true then 1 else 0) ≤ 1 :=
  delta_isIn n s ▸ delta_le_one n.r.addr s

@[simp] theorem real_nil (s : Nat) : real [] s = 0 := rfl

theorem real_cons (n : TNode) (l : List TNode) (s : Nat) : real (n :: l) s = delta n.r.addr s + real l s := by
  rw [real, countP_cons, Nat.add_comm, delta_isIn, real]

@[simp] theorem real_singleton (n : TNode) (s : Nat) : real [n] s = delta n.r.addr s := real_cons n [] s

theorem real_append (l1 l2 : List TNode) (s : Nat) : real (l1 ++ l2) s = real l1 s + real l2 s :=
  countP_append

theorem real_perm {l1 l2 : List TNode} (h : l1 ~ l2) (s : Nat) : real l1 s = real l2 s := h.countP_eq _

theorem delta_le_real {l : List TNode} {n : TNode} (hn : n ∈ l) (s : Nat) : delta n.r.addr s ≤ real l s := by
  obtain ⟨l1, l2, rfl⟩ := append_of_mem hn
  rw [real_append, real_cons]
  exact Nat.le_trans (Nat.le_add_right ..) (Nat.le_add_left ..)

/-! ### one node picked out of a list

Removing the entry with a given id, rewriting it, promoting the replacement at a random index (if the index is in
range) and dropping the oldest replacement all take one node `x` out of a list `l`: `l ~ x :: (what is left)`. -/

theorem perm_filter_id {l : List TNode} {n : TNode} (hn : n ∈ l) (hnd : (l.map (·.r.id)).Nodup) :
    l ~ n :: l.filter (·.r.id != n.r.id) := by
  induction l with
  | nil => simp at hn
  | cons x xs ih =>
    rw [map_cons, nodup_cons] at hnd
    by_cases hx : x.r.id = n.r.id
    · -- ids are unique, so `x` is `n` and nothing in `xs` has that id
      have : ∀ m ∈ xs, (m.r.id != n.r.id) = true := fun m hm => by
        rw [← hx]; exact bne_iff_ne.mpr fun h => hnd.1 (mem_map.mpr ⟨m, hm, h⟩)
      have hxn : x = n := by
        rcases mem_cons.mp hn with rfl | h
        · rfl
        · exact absurd (this n h) (by simp)
      rw [filter_cons_of_neg (by simp [hx]), filter_eq_self.mpr this, hxn]
    · have hn' : n ∈ xs := (mem_cons.mp hn).resolve_left fun h => hx (h ▸ rfl)
      rw [filter_cons_of_pos (by simpa using hx)]
      exact ((ih hn' hnd.2).cons x).trans (Perm.swap ..)

theorem perm_map_id {l : List TNode} {n : TNode} (hn : n ∈ l) (hnd : (l.map (·.r.id)).Nodup) (f : TNode → TNode) :
    l.map (fun m => if m.r.id = n.r.id then f m else m) ~ f n :: l.filter (·.r.id != n.r.id) := by
  refine ((perm_filter_id hn hnd).map _).trans ?_
  rw [map_cons, if_pos rfl, perm_cons]
  refine .of_eq ((map_congr_left fun m hm => ?_).trans (map_id _))
  rw [if_neg (bne_iff_ne.mp (mem_filter.mp hm).2)]; rfl

theorem perm_eraseIdx {α} (l : List α) (j : Nat) : l ~ l[j]?.toList ++ l.eraseIdx j := by
  induction l generalizing j with
  | nil => exact .refl _
  | cons y ys ih =>
    cases j with
    | zero => exact .refl _
    | succ j => exact ((ih j).cons y).trans perm_middle.symm

theorem perm_dropLast {α} {l : List α} {x : α} (h : l.getLast? = some x) : l ~ x :: l.dropLast := by
  obtain ⟨ys, rfl⟩ := getLast?_eq_some_iff.mp h
  rw [dropLast_concat]; exact perm_append_comm

theorem BInv.entries_nodup {bo : Nat → Nat} {me i : Nat} {b : Bucket} (B : BInv bo me i b) :
    (b.entries.map (·.r.id)).Nodup := by
  have := B.nodup; rw [nodes, map_append, nodup_append] at this; exact this.1

theorem Inv.delta_le {bo : Nat → Nat} {t : Table} {i : Nat} (hinv : Inv bo t) (hi : i < nBuckets) {n : TNode}
    (hn : n ∈ nodes (t.bkt i)) (s : Nat) : delta n.r.addr s ≤ (t.bkt i).ips s ∧ delta n.r.addr s ≤ t.ips s :=
  have h := delta_le_real hn s
  ⟨Nat.le_trans h ((hinv.b i).cnt s).1,
   Nat.le_trans h (Nat.le_trans (le_sumTo (fun k => real (nodes (t.bkt k)) s) nBuckets i hi) (hinv.tcnt s).1)⟩

/-- Generic step lemma: an operation that rewrites one bucket (and the table-wide counters) keeps the
    invariant if the new bucket is well-formed and the table counter moved at least as much as the
    real population of that bucket. -/
theorem inv_update (bo : Nat → Nat) (t t' : Table) (i : Nat) (hi : i < nBuckets) (hinv : Inv bo t)
    (hself : t'.self = t.self)
    (hoth : ∀ k, k ≠ i → t'.bkt k = t.bkt k)
    (hb : BInv bo t.self i (t'.bkt i))
    (htab : ∀ s, real (nodes (t'.bkt i)) s + t.ips s ≤ real (nodes (t.bkt i)) s + t'.ips s ∧ t'.ips s ≤ tLimit) :
    Inv bo t' := by
  constructor
  · intro k
    rw [hself]
    by_cases hk : k = i
    · subst hk; exact hb
    · rw [hoth k hk]; exact hinv.b k
  · intro s
    have hsum : sumReal t' s + real (nodes (t.bkt i)) s = sumReal t s + real (nodes (t'.bkt i)) s :=
      sumTo_upd (fun k => real (nodes (t'.bkt k)) s) (fun k => real (nodes (t.bkt k)) s) i nBuckets
        (fun k hk => by simp only [hoth k hk]) hi
    refine ⟨Nat.le_of_add_le_add_right (b := real (nodes (t.bkt i)) s) ?_, (htab s).2⟩
    calc sumReal t' s + real (nodes (t.bkt i)) s = sumReal t s + _ := hsum
      _ ≤ t.ips s + _ := Nat.add_le_add_right (hinv.tcnt s).1 _
      _ = _ + t.ips s := Nat.add_comm ..
      _ ≤ _ + t'.ips s := (htab s).1
      _ = t'.ips s + _ := Nat.add_comm ..

/-- A step exchanges some nodes of one bucket (`out` leave, `inn` enter, `rest` stay; `b'` is the bucket afterwards),
    and each counter — the bucket's (`hbLo`, `hbHi`) and the table's (`htLo`, `htHi`) — ends at least at "before +
    entering - leaving" and within its limit. The subtraction is the truncated one on purpose: that is what `removeIP`
    computes, so for the operations `hbLo` and `htLo` are reflexivity. -/
theorem Inv.exchange {bo : Nat → Nat} {t t' : Table} {i : Nat} (hinv : Inv bo t) (hi : i < nBuckets)
    {b' : Bucket} {out inn rest : List TNode}
    (hself : t'.self = t.self) (hbkt : t'.bkt = upd t.bkt i b')
    (hold : nodes (t.bkt i) ~ out ++ rest) (hnew : nodes b' ~ inn ++ rest)
    (hE : b'.entries.length ≤ bucketSize) (hR : b'.reps.length ≤ maxReps)
    (hin : ∀ n ∈ inn, (bo n.r.id = i ∧ n.r.id ≠ t.self ∧ n.r.addr.valid = true) ∧ n.r.id ∉ rest.map (·.r.id))
    (hnd : (inn.map (·.r.id)).Nodup)
    (hbLo : ∀ s, (t.bkt i).ips s + real inn s - real out s ≤ b'.ips s) (hbHi : ∀ s, b'.ips s ≤ bLimit)
    (htLo : ∀ s, t.ips s + real inn s - real out s ≤ t'.ips s) (htHi : ∀ s, t'.ips s ≤ tLimit) : Inv bo t' := by
  have B := hinv.b i
  have hb' : t'.bkt i = b' := by rw [hbkt]; exact if_pos rfl
  -- a counter that follows the exchange covers the new population as well as it covered the old one
  have key (s c c') (h : c + real inn s - real out s ≤ c') :
      real (nodes b') s + c ≤ real (nodes (t.bkt i)) s + c' := by
    rw [real_perm hold, real_perm hnew, real_append, real_append]
    calc real inn s + real rest s + c = c + real inn s + real rest s := (Nat.add_comm ..).trans (Nat.add_assoc ..).symm
      _ ≤ c' + real out s + real rest s := Nat.add_le_add_right (Nat.sub_le_iff_le_add.mp h) _
      _ = real out s + real rest s + c' := (Nat.add_assoc ..).trans (Nat.add_comm ..)
  refine inv_update bo t t' i hi hinv hself (fun k hk => by rw [hbkt]; exact if_neg hk)
    (hb' ▸ ⟨hE, hR, fun n hn => ?_, ?_, fun s => ⟨?_, hbHi s⟩⟩)
    fun s => hb' ▸ ⟨key s _ _ (htLo s), htHi s⟩
  · rcases mem_append.mp (hnew.mem_iff.mp hn) with h | h
    · exact (hin n h).1
    · exact B.place n (hold.mem_iff.mpr (mem_append_right _ h))
  · have := (hold.map (·.r.id)).nodup B.nodup
    rw [map_append, nodup_append] at this
    refine (hnew.map (·.r.id)).symm.nodup ?_
    rw [map_append, nodup_append]
    refine ⟨hnd, this.2.1, fun a ha b hb hab => ?_⟩
    obtain ⟨n, hn, rfl⟩ := mem_map.mp ha
    exact (hin n hn).2 (hab ▸ hb)
  · -- `real' + c ≤ real + c' ≤ c + c'`
    have := Nat.le_trans (key s _ _ (hbLo s)) (Nat.add_le_add_right (B.cnt s).1 _)
    exact Nat.le_of_add_le_add_left (Nat.add_comm .. ▸ this)

end Tb
