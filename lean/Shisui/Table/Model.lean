/-! Model of the routing table of `portalwire/table.go` (C07/C18): buckets of entries and replacement lists
    (`bucket.entries`, `bucket.replacements`) with the per-bucket and table-wide /24 address counters (`bucket.ips`,
    `Table.ips`, both `netutil.DistinctNetSet`). `bo` is the bucket of a node id (`Table.bucket`: `bucketAtDistance` of
    the log distance to the local node); `oid` stands for the identity of the Go `*tableNode` object. -/
namespace Tb

structure Addr where
  subnet : Nat
  host : Nat
  lan : Bool
  valid : Bool
deriving DecidableEq, Repr

structure Rec where
  id : Nat
  addr : Addr
  port : Nat
  seq : Nat
deriving DecidableEq, Repr

structure TNode where
  oid : Nat
  r : Rec
  checks : Nat
  live : Bool
deriving DecidableEq, Repr

abbrev Cnt := Nat → Nat

def Cnt.inc (c : Cnt) (s : Nat) : Cnt := fun k => if k = s then c k + 1 else c k
def Cnt.dec (c : Cnt) (s : Nat) : Cnt := fun k => if k = s then c k - 1 else c k

structure Bucket where
  entries : List TNode
  reps : List TNode
  ips : Cnt

structure Table where
  self : Nat
  bkt : Nat → Bucket
  ips : Cnt
  nextOid : Nat
  initDone : Bool

def bucketSize := 16
def maxReps := 10
def bLimit := 2
def tLimit := 10
def nBuckets := 17

def upd (f : Nat → Bucket) (i : Nat) (b : Bucket) : Nat → Bucket := fun k => if k = i then b else f k

/-- `Table.addIP` -/
def addIP (t : Table) (i : Nat) (a : Addr) : Bool × Table :=
  if !a.valid then (false, t)
  else if a.lan then (true, t)
  else if t.ips a.subnet < tLimit then
    if (t.bkt i).ips a.subnet < bLimit then
      (true, { t with ips := t.ips.inc a.subnet,
                      bkt := upd t.bkt i { t.bkt i with ips := (t.bkt i).ips.inc a.subnet } })
    else (false, t)
  else (false, t)

/-- `Table.removeIP` -/
def removeIP (t : Table) (i : Nat) (a : Addr) : Table :=
  if a.lan then t
  else { t with ips := t.ips.dec a.subnet,
                bkt := upd t.bkt i { t.bkt i with ips := (t.bkt i).ips.dec a.subnet } }

def hasId (l : List TNode) (id : Nat) : Bool := l.any (fun n => n.r.id == id)

/-- `pushNode`: add to the front keeping at most `maxReps`; returns the evicted node if any -/
def pushNode (l : List TNode) (n : TNode) : List TNode × Option TNode :=
  if l.length < maxReps then (n :: l, none) else (n :: l.dropLast, l.getLast?)

def mkNode (oid : Nat) (r : Rec) (checks : Nat) (live : Bool) : TNode :=
  { oid := oid, r := r, checks := checks, live := live }

/-- store a new replacement list for bucket `i` (a fresh node object was allocated) -/
def setReps (t : Table) (i : Nat) (reps : List TNode) : Table :=
  { t with nextOid := t.nextOid + 1, bkt := upd t.bkt i { t.bkt i with reps := reps } }

/-- `Table.addReplacement` -/
def addReplacement (t : Table) (i : Nat) (r : Rec) : Table :=
  if hasId (t.bkt i).reps r.id then t
  else match addIP t i r.addr with
    | (false, _) => t
    | (true, t1) =>
      match (pushNode (t1.bkt i).reps (mkNode t1.nextOid r 0 false)).2 with
      | none => setReps t1 i (pushNode (t1.bkt i).reps (mkNode t1.nextOid r 0 false)).1
      | some rm => removeIP (setReps t1 i (pushNode (t1.bkt i).reps (mkNode t1.nextOid r 0 false)).1) i rm.r.addr

/-- `Table.handleAddNode` without the bump part (node not yet in entries) -/
def addNew (bo : Nat → Nat) (t : Table) (r : Rec) (forceLive : Bool) : Table × Bool :=
  let i := bo r.id
  if (t.bkt i).entries.length ≥ bucketSize then (addReplacement t i r, false)
  else match addIP t i r.addr with
    | (false, _) => (t, false)
    | (true, t1) =>
      let wn : TNode := { oid := t1.nextOid, r := r, checks := if forceLive then 1 else 0, live := forceLive }
      let b1 := t1.bkt i
      ({ t1 with nextOid := t1.nextOid + 1,
                 bkt := upd t1.bkt i { b1 with entries := b1.entries ++ [wn],
                                               reps := b1.reps.filter (fun n => n.r.id != r.id) } }, true)

/-- `Table.deleteInBucket`; `rnd` is the value `rand.Intn` returned -/
def deleteInBucket (t : Table) (i : Nat) (id : Nat) (rnd : Nat) : Table :=
  let b := t.bkt i
  match b.entries.find? (fun n => n.r.id == id) with
  | none => t
  | some n =>
    let t1 : Table := { t with bkt := upd t.bkt i { b with entries := b.entries.filter (fun m => m.r.id != id) } }
    let t2 := removeIP t1 i n.r.addr
    let b2 := t2.bkt i
    match b2.reps[rnd % (max b2.reps.length 1)]? with
    | none => t2
    | some rep =>
      { t2 with bkt := upd t2.bkt i { b2 with entries := b2.entries ++ [rep],
                                              reps := b2.reps.eraseIdx (rnd % (max b2.reps.length 1)) } }

end Tb

namespace Tb

/-- rewrite the entry with the given id in bucket `i` -/
def setEntry (t : Table) (i : Nat) (id : Nat) (f : TNode → TNode) : Table :=
  { t with bkt := upd t.bkt i { t.bkt i with entries := (t.bkt i).entries.map (fun n => if n.r.id = id then f n else n) } }

/-- `Table.bumpInBucket` (bucket bookkeeping part); second component: the node was found -/
def bump (t : Table) (i : Nat) (nr : Rec) (inbound : Bool) : Table × Bool :=
  match (t.bkt i).entries.find? (fun n => n.r.id == nr.id) with
  | none => (t, false)
  | some n =>
    if nr.seq ≤ n.r.seq ∧ inbound = false then (t, true)
    else if nr.addr ≠ n.r.addr then
      match addIP (removeIP t i n.r.addr) i nr.addr with
      | (false, _) => ((addIP (removeIP t i n.r.addr) i n.r.addr).2, true)   -- put the previous record back
      | (true, t2) => (setEntry t2 i nr.id (fun m => { m with r := nr, live := false }), true)
    else (setEntry t i nr.id (fun m => { m with r := nr, live := if nr.port ≠ n.r.port then false else m.live }), true)

end Tb

namespace Tb
/-- `Table.handleAddNode` -/
def handleAddNode (bo : Nat → Nat) (t : Table) (r : Rec) (inbound forceLive : Bool) : Table × Bool :=
  if r.id = t.self then (t, false)
  else if inbound = true ∧ t.initDone = false then (t, false)
  else
    match bump t (bo r.id) r inbound with
    | (t', true) => (t', false)          -- already in the bucket (record possibly updated)
    | (_, false) => addNew bo t r forceLive
end Tb
