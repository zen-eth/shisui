import Shisui.Table.Inv
/-! What the model's functions compute. `addIP` and `removeIP` are brought into one form each, uniform in `delta`
    (no LAN / public case split): after rewriting with these equations every table an operation produces is a
    structure literal over the table it started from. The bucket operations are then described by cases; C07 and
    C18 both start from those descriptions. -/
namespace Tb
open List

@[simp] theorem upd_same (f : Nat → Bucket) (i : Nat) (b : Bucket) : upd f i b i = b := if_pos rfl
theorem upd_other (f : Nat → Bucket) (i k : Nat) (b : Bucket) (h : k ≠ i) : upd f i b k = f k := if_neg h

theorem upd_upd (f : Nat → Bucket) (i : Nat) (b b' : Bucket) : upd (upd f i b) i b' = upd f i b' := by
  funext k; unfold upd; split <;> rfl

theorem upd_self (f : Nat → Bucket) (i : Nat) : upd f i (f i) = f := by
  funext k; unfold upd; split
  · rename_i h; rw [h]
  · rfl

theorem upd_proj {α} (p : Bucket → α) {f : Nat → Bucket} {i : Nat} {b : Bucket} (h : p b = p (f i)) (k : Nat) :
    p (upd f i b k) = p (f k) := by
  unfold upd; split
  · rename_i e; rw [e, h]
  · rfl

/-- pointwise arithmetic with `delta a` is the model's update of the one counter `a` belongs to -/
theorem map_delta (g : Nat → Nat → Nat) (hg : ∀ x, g x 0 = x) (c : Cnt) (a : Addr) :
    (fun s => g (c s) (delta a s)) = if a.lan then c else fun k => if k = a.subnet then g (c k) 1 else c k := by
  funext s; unfold delta
  cases a.lan
  · by_cases h : s = a.subnet
    · simp [h]
    · simp [hg, h, Ne.symm h]
  · exact hg _

theorem add_delta (c : Cnt) (a : Addr) : (fun s => c s + delta a s) = if a.lan then c else c.inc a.subnet :=
  map_delta (· + ·) Nat.add_zero c a

theorem sub_delta (c : Cnt) (a : Addr) : (fun s => c s - delta a s) = if a.lan then c else c.dec a.subnet :=
  map_delta (· - ·) Nat.sub_zero c a

theorem removeIP_eq (t : Table) (i : Nat) (a : Addr) :
    removeIP t i a = { t with ips := fun s => t.ips s - delta a s,
                              bkt := upd t.bkt i { t.bkt i with ips := fun s => (t.bkt i).ips s - delta a s } } := by
  rw [sub_delta, sub_delta, removeIP]
  split
  · rw [upd_self]
  · rfl

/-- A LAN address is admitted without being counted: its `delta` is 0, and the update below is then `upd_self`. -/
theorem addIP_eq (t : Table) (i : Nat) (a : Addr) :
    addIP t i a =
      if a.valid = true ∧ (a.lan = false → t.ips a.subnet < tLimit ∧ (t.bkt i).ips a.subnet < bLimit) then
        (true, { t with ips := fun s => t.ips s + delta a s,
                        bkt := upd t.bkt i { t.bkt i with ips := fun s => (t.bkt i).ips s + delta a s } })
      else (false, t) := by
  rw [add_delta, add_delta, addIP]
  cases a.valid
  · rfl
  cases a.lan
  · by_cases h1 : t.ips a.subnet < tLimit <;> by_cases h2 : (t.bkt i).ips a.subnet < bLimit <;> simp [h1, h2]
  · simp [upd_self]

/-- The limits are stated as "within the limit before, hence within it after", so that the invariant's bounds
    (`BInv.cnt`, `Inv.tcnt`) can be fed in as they are. -/
theorem addIP_true {t : Table} {i : Nat} {a : Addr} {t1 : Table} (h : addIP t i a = (true, t1)) :
    a.valid = true ∧
    (∀ s, (t.ips s ≤ tLimit → t.ips s + delta a s ≤ tLimit) ∧
          ((t.bkt i).ips s ≤ bLimit → (t.bkt i).ips s + delta a s ≤ bLimit)) ∧
    t1 = { t with ips := fun s => t.ips s + delta a s,
                  bkt := upd t.bkt i { t.bkt i with ips := fun s => (t.bkt i).ips s + delta a s } } := by
  rw [addIP_eq] at h
  split at h
  · rename_i hc
    refine ⟨hc.1, fun s => ?_, (Prod.mk.inj h).2.symm⟩
    unfold delta
    split
    next hs =>
      obtain ⟨hl, rfl⟩ : a.lan = false ∧ a.subnet = s := by simpa using hs
      exact ⟨fun _ => (hc.2 hl).1, fun _ => (hc.2 hl).2⟩
    · exact ⟨id, id⟩
  · cases (Prod.mk.inj h).1

theorem addIP_removeIP {t : Table} {i : Nat} {a : Addr} (hv : a.valid = true)
    (hb : ∀ s, delta a s ≤ (t.bkt i).ips s ∧ (t.bkt i).ips s ≤ bLimit)
    (ht : ∀ s, delta a s ≤ t.ips s ∧ t.ips s ≤ tLimit) : addIP (removeIP t i a) i a = (true, t) := by
  have back (c : Cnt) (h : ∀ s, delta a s ≤ c s) : (fun s => c s - delta a s + delta a s) = c :=
    funext fun s => Nat.sub_add_cancel (h s)
  rw [addIP_eq, removeIP_eq, if_pos]
  · simp only [upd_same, back _ fun s => (hb s).1, back _ fun s => (ht s).1, upd_upd]
    exact congrArg (fun f => (true, { t with bkt := f })) (upd_self t.bkt i)
  · refine ⟨hv, fun hl => ?_⟩
    have h1 : delta a a.subnet = 1 := delta_eq_one.mpr ⟨hl, rfl⟩
    have lt {c L : Nat} (h : delta a a.subnet ≤ c ∧ c ≤ L) : c - delta a a.subnet < L := by
      rw [h1] at h ⊢
      exact Nat.lt_of_lt_of_le (Nat.sub_lt h.1 Nat.one_pos) h.2
    simp only [upd_same]
    exact ⟨lt (ht _), lt (hb _)⟩

theorem removeIP_lists (t : Table) (i : Nat) (a : Addr) (k : Nat) :
    ((removeIP t i a).bkt k).entries = (t.bkt k).entries ∧ ((removeIP t i a).bkt k).reps = (t.bkt k).reps := by
  rw [removeIP_eq]; exact ⟨upd_proj (·.entries) (by rfl) k, upd_proj (·.reps) (by rfl) k⟩

theorem addIP_lists {t : Table} {i : Nat} {a : Addr} {ok : Bool} {t1 : Table} (h : addIP t i a = (ok, t1)) (k : Nat) :
    (t1.bkt k).entries = (t.bkt k).entries ∧ (t1.bkt k).reps = (t.bkt k).reps := by
  rw [addIP_eq] at h
  split at h <;> cases h
  · exact ⟨upd_proj (·.entries) (by rfl) k, upd_proj (·.reps) (by rfl) k⟩
  · exact ⟨rfl, rfl⟩

theorem addIP_snd_lists (t : Table) (i : Nat) (a : Addr) (k : Nat) :
    (((addIP t i a).2).bkt k).entries = (t.bkt k).entries ∧ (((addIP t i a).2).bkt k).reps = (t.bkt k).reps :=
  addIP_lists (ok := (addIP t i a).1) rfl k

theorem hasId_false {l : List TNode} {id : Nat} (h : hasId l id = false) : id ∉ l.map (·.r.id) := fun hm => by
  obtain ⟨n, hn, rfl⟩ := mem_map.mp hm
  exact any_eq_false.mp h n hn (beq_self_eq_true _)

/-- the entry with id `id` (if any) of bucket `i` -/
def entryOf (t : Table) (i id : Nat) : Option TNode := (t.bkt i).entries.find? (fun n => n.r.id == id)

theorem entryOf_some {t : Table} {i id : Nat} {n : TNode} (h : entryOf t i id = some n) :
    n ∈ (t.bkt i).entries ∧ n.r.id = id := ⟨mem_of_find?_eq_some h, by simpa using find?_some h⟩

theorem entryOf_none {t : Table} {i id : Nat} (h : entryOf t i id = none) : ∀ n ∈ (t.bkt i).entries, n.r.id ≠ id :=
  fun n hn hid => by simpa [hid] using find?_eq_none.mp h n hn

/-- what `addReplacement` makes of the table -/
inductive ReplCase (t : Table) (i : Nat) (r : Rec) : Table → Prop
  | unchanged : ReplCase t i r t
  | front (t1 : Table) : addIP t i r.addr = (true, t1) → hasId (t.bkt i).reps r.id = false →
      (t.bkt i).reps.length < maxReps →
      ReplCase t i r (setReps t1 i (mkNode t.nextOid r 0 false :: (t.bkt i).reps))
  | evict (t1 : Table) (rm : TNode) : addIP t i r.addr = (true, t1) → hasId (t.bkt i).reps r.id = false →
      ¬ (t.bkt i).reps.length < maxReps → (t.bkt i).reps.getLast? = some rm →
      ReplCase t i r (removeIP (setReps t1 i (mkNode t.nextOid r 0 false :: (t.bkt i).reps.dropLast)) i rm.r.addr)

theorem addReplacement_spec (t : Table) (i : Nat) (r : Rec) : ReplCase t i r (addReplacement t i r) := by
  rw [addReplacement]
  cases hhas : hasId (t.bkt i).reps r.id
  case true => exact .unchanged
  cases hadd : addIP t i r.addr with
  | mk ok t1 =>
  cases ok
  · exact .unchanged
  have hsame : (t1.bkt i).reps = (t.bkt i).reps ∧ t1.nextOid = t.nextOid := by
    obtain ⟨_, _, rfl⟩ := addIP_true hadd; exact ⟨by simp only [upd_same], rfl⟩
  -- the `hasId` test has become `if false = true`, the `match` sees `(true, t1)`: both reduce
  simp only [Bool.false_eq_true, if_false, hsame.1, hsame.2, pushNode]
  by_cases hlen : (t.bkt i).reps.length < maxReps
  · rw [if_pos hlen]; exact .front t1 hadd hhas hlen
  · rw [if_neg hlen]
    cases hlast : (t.bkt i).reps.getLast? with
    | none => rw [getLast?_eq_none_iff] at hlast; rw [hlast] at hlen; exact absurd (by decide) hlen
    | some rm => exact .evict t1 rm hadd hhas hlen hlast


theorem deleteInBucket_none {t : Table} {i id : Nat} (rnd : Nat) (h : entryOf t i id = none) :
    deleteInBucket t i id rnd = t := by
  unfold entryOf at h; rw [deleteInBucket, h]

theorem deleteInBucket_some {t : Table} {i id : Nat} (rnd : Nat) {n : TNode} (h : entryOf t i id = some n) :
    deleteInBucket t i id rnd =
      { t with
        ips := fun s => t.ips s - delta n.r.addr s,
        bkt := upd t.bkt i
          { entries := (t.bkt i).entries.filter (fun m => m.r.id != id) ++
                       ((t.bkt i).reps[rnd % max (t.bkt i).reps.length 1]?).toList,
            reps := (t.bkt i).reps.eraseIdx (rnd % max (t.bkt i).reps.length 1),
            ips := fun s => (t.bkt i).ips s - delta n.r.addr s } } := by
  unfold entryOf at h; rw [deleteInBucket, h]
  simp only [removeIP_eq, upd_same, upd_upd]
  split
  next hnone => rw [hnone, eraseIdx_of_length_le (getElem?_eq_none_iff.mp hnone), Option.toList_none, append_nil]
  next rep hrep => rw [hrep, Option.toList_some]

theorem setEntry_entries (t : Table) (i id : Nat) (f : TNode → TNode) :
    ((setEntry t i id f).bkt i).entries = (t.bkt i).entries.map (fun n => if n.r.id = id then f n else n) := by
  rw [setEntry]; exact congrArg Bucket.entries (upd_same ..)

theorem bump_none {t : Table} {i : Nat} {nr : Rec} (inb : Bool) (h : entryOf t i nr.id = none) :
    bump t i nr inb = (t, false) := by
  unfold entryOf at h; rw [bump, h]

/-- what `bump` makes of the table when it has found the entry `n` -/
inductive BumpCase (t : Table) (i : Nat) (nr : Rec) (inb : Bool) (n : TNode) : Table → Prop
  | stale : nr.seq ≤ n.r.seq ∧ inb = false → BumpCase t i nr inb n t
  | sameAddr : ¬(nr.seq ≤ n.r.seq ∧ inb = false) → nr.addr = n.r.addr →
      BumpCase t i nr inb n
        (setEntry t i nr.id (fun m => { m with r := nr, live := if nr.port ≠ n.r.port then false else m.live }))
  | refused : ¬(nr.seq ≤ n.r.seq ∧ inb = false) → nr.addr ≠ n.r.addr →
      (addIP (removeIP t i n.r.addr) i nr.addr).1 = false →
      BumpCase t i nr inb n (addIP (removeIP t i n.r.addr) i n.r.addr).2
  | moved (t2 : Table) : ¬(nr.seq ≤ n.r.seq ∧ inb = false) → nr.addr ≠ n.r.addr →
      addIP (removeIP t i n.r.addr) i nr.addr = (true, t2) →
      BumpCase t i nr inb n (setEntry t2 i nr.id (fun m => { m with r := nr, live := false }))

theorem bump_spec {t : Table} {i : Nat} {nr : Rec} (inb : Bool) {n : TNode} (h : entryOf t i nr.id = some n) :
    ∃ t', bump t i nr inb = (t', true) ∧ BumpCase t i nr inb n t' := by
  unfold entryOf at h
  simp only [bump, h]
  by_cases h1 : nr.seq ≤ n.r.seq ∧ inb = false
  · rw [if_pos h1]; exact ⟨_, rfl, .stale h1⟩
  by_cases h2 : nr.addr = n.r.addr
  · rw [if_neg h1, if_neg (not_not_intro h2)]; exact ⟨_, rfl, .sameAddr h1 h2⟩
  rw [if_neg h1, if_pos h2]
  cases hadd : addIP (removeIP t i n.r.addr) i nr.addr with
  | mk ok t2 =>
    cases ok
    · exact ⟨_, rfl, .refused h1 h2 (congrArg Prod.fst hadd)⟩
    · exact ⟨_, rfl, .moved t2 h1 h2 hadd⟩

theorem bump_notfound {t : Table} {i : Nat} {nr : Rec} {inb : Bool} {t' : Table} (h : bump t i nr inb = (t', false)) :
    ∀ n ∈ (t.bkt i).entries, n.r.id ≠ nr.id := by
  cases hfind : entryOf t i nr.id with
  | none => exact entryOf_none hfind
  | some n =>
    obtain ⟨_, e, _⟩ := bump_spec inb hfind
    cases h.symm.trans e
end Tb
