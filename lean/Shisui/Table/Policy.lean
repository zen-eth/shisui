import Shisui.Table.Reval
/-! C18: which operations may take an entry out of a bucket, and what else they do to the entries, the stand-bys and
    the stored records. -/
namespace Tb
open List

def entryIds (t : Table) (k : Nat) : List Nat := (t.bkt k).entries.map (·.r.id)

theorem entryIds_congr {t t' : Table} {k : Nat} (h : (t'.bkt k).entries = (t.bkt k).entries) :
    entryIds t' k = entryIds t k := congrArg (·.map (·.r.id)) h

theorem setEntry_ids (t : Table) (i id : Nat) (f : TNode → TNode) (hf : ∀ m, m.r.id = id → (f m).r.id = id) (k : Nat) :
    entryIds (setEntry t i id f) k = entryIds t k := by
  refine upd_proj (fun b => b.entries.map (·.r.id)) ?_ k
  rw [map_map]
  refine map_congr_left fun m _ => ?_
  rw [Function.comp_apply]
  split
  next h => exact (hf m h).trans h.symm
  · rfl

theorem bump_ids (t : Table) (i : Nat) (nr : Rec) (inb : Bool) (k : Nat) :
    entryIds (bump t i nr inb).1 k = entryIds t k := by
  cases hfind : entryOf t i nr.id with
  | none => rw [bump_none inb hfind]
  | some n =>
    obtain ⟨t', e, c⟩ := bump_spec inb hfind
    rw [e]
    cases c with
    | stale => rfl
    | sameAddr => exact setEntry_ids t i nr.id _ (fun _ _ => rfl) k
    | refused => exact entryIds_congr ((addIP_snd_lists ..).1.trans (removeIP_lists ..).1)
    | moved t2 _ _ hadd =>
      rw [setEntry_ids t2 i nr.id _ (fun _ _ => rfl) k]
      exact entryIds_congr ((addIP_lists hadd k).1.trans (removeIP_lists ..).1)

theorem addReplacement_entries (t : Table) (i : Nat) (r : Rec) (k : Nat) :
    ((addReplacement t i r).bkt k).entries = (t.bkt k).entries := by
  have c := addReplacement_spec t i r
  generalize addReplacement t i r = t' at c ⊢
  cases c with
  | unchanged => rfl
  | front t1 hadd => exact (upd_proj (·.entries) (by rfl) k).trans (addIP_lists hadd k).1
  | evict t1 rm hadd =>
    exact (removeIP_lists ..).1.trans ((upd_proj (·.entries) (by rfl) k).trans (addIP_lists hadd k).1)

/-- no addition — found, inbound, seed or lookup feedback, into a full bucket or not — ever removes an entry: every
    id that was an entry of a bucket still is one afterwards -/
theorem add_never_displaces (bo : Nat → Nat) (t : Table) (r : Rec) (inb fl : Bool) (k : Nat) :
    ∀ id ∈ entryIds t k, id ∈ entryIds (handleAddNode bo t r inb fl).1 k := by
  intro id hid
  -- the leaves of `handleAddNode`: case1 the local node itself, case2 an inbound contact before the table is
  -- initialised, case3 `bump` found the id among the entries, case4 the id is no entry yet: `addNew`
  fun_cases handleAddNode bo t r inb fl with
  | case1 => exact hid
  | case2 => exact hid
  | case3 _ _ t' hb => rw [← congrArg Prod.fst hb, bump_ids]; exact hid
  | case4 =>
    -- the leaves of `addNew`: case1 the bucket is full, case2 `addIP` refuses the address, case3 the node is appended
    fun_cases addNew bo t r fl with
    | case1 => rw [entryIds_congr (addReplacement_entries ..)]; exact hid
    | case2 => exact hid
    | case3 i _ t1 hadd wn b1 =>
      rw [← entryIds_congr (addIP_lists hadd k).1] at hid
      unfold entryIds at hid ⊢
      by_cases hk : k = i
      · subst hk; simp only [upd_same, map_append, mem_append]; exact .inl hid
      · simp only [upd_other _ _ _ _ hk]; exact hid

theorem deleteInBucket_ids {t : Table} {i id rnd k x : Nat} (hx : x ∈ entryIds t k)
    (hgone : x ∉ entryIds (deleteInBucket t i id rnd) k) : x = id ∧ k = i := by
  cases hfind : entryOf t i id with
  | none => rw [deleteInBucket_none rnd hfind] at hgone; exact absurd hx hgone
  | some n =>
    rw [deleteInBucket_some rnd hfind] at hgone
    unfold entryIds at hx hgone
    by_cases hk : k = i
    · subst hk
      simp only [upd_same, map_append, mem_append, not_or] at hgone
      obtain ⟨m, hm, rfl⟩ := mem_map.mp hx
      refine ⟨Decidable.byContradiction fun hne => hgone.1 (mem_map.mpr ⟨m, mem_filter.mpr ⟨hm, ?_⟩, rfl⟩), rfl⟩
      exact bne_iff_ne.mpr hne
    · simp only [upd_other _ _ _ _ hk] at hgone; exact absurd hx hgone

/-- C18: an entry id that was in bucket `k` and no longer is after one operation left for one of exactly three
    reasons — explicit deletion of that id; a failed liveness check of that id that exhausted its credit
    (`checks / 3 = 0`); a failure report for that id with at least five consecutive failures while the bucket had at
    least `bucketSize/4 = 4` entries. Additions of any kind (found, inbound, lookup feedback, into full buckets) and
    answered checks never remove an entry. -/
theorem entry_leaves_only_if (bo : Nat → Nat) (t : Table) (op : Op2) (k x : Nat)
    (hx : x ∈ entryIds t k) (hgone : x ∉ entryIds (step2 bo t op) k) :
    (∃ rnd, op = .delete x rnd ∧ k = bo x) ∨
    (∃ oid rnd n, op = .revalFail x oid rnd ∧ k = bo x ∧ entryOf t k x = some n ∧ n.oid = oid ∧ n.checks / 3 = 0) ∨
    (∃ fails rnd found, op = .track x fails rnd found ∧ k = bo x ∧ fails ≥ 5 ∧ (t.bkt k).entries.length ≥ 4) := by
  cases op with
  | add r inb fl => exact absurd (add_never_displaces bo t r inb fl k x hx) hgone
  | delete id rnd =>
    obtain ⟨rfl, rfl⟩ := deleteInBucket_ids hx hgone
    exact .inl ⟨rnd, rfl, rfl⟩
  | revalFail id oid rnd =>
    dsimp only [step2] at hgone
    revert hgone
    -- the leaves of `revalFail`: case1 the id is no entry, case2 the answer is for another node object, case3 the
    -- credit is exhausted: `deleteInBucket`, case4 the credit is divided by three
    fun_cases revalFail t (bo id) id oid rnd with
    | case1 => exact fun hgone => absurd hx hgone
    | case2 => exact fun hgone => absurd hx hgone
    | case3 n hfind hoid hc =>
      intro hgone
      obtain ⟨rfl, rfl⟩ := deleteInBucket_ids hx hgone
      exact .inr (.inl ⟨oid, rnd, n, rfl, rfl, hfind, Decidable.not_not.mp hoid, hc⟩)
    | case4 =>
      intro hgone
      rw [setEntry_ids t (bo id) id failChecks (fun _ h => h) k] at hgone
      exact absurd hx hgone
  | revalOk id oid nr =>
    refine absurd ?_ hgone
    dsimp only [step2]
    -- the leaves of `revalOk`: case1 the id is no entry, case2 the answer is for another node object, case3 the
    -- credit goes up, case4 it goes up and the new record is taken over by `bump`
    fun_cases revalOk t (bo id) id oid nr with
    | case1 => exact hx
    | case2 => exact hx
    | case3 => rw [setEntry_ids t (bo id) id okChecks (fun _ h => h) k]; exact hx
    | case4 => rw [bump_ids, setEntry_ids t (bo id) id okChecks (fun _ h => h) k]; exact hx
  | track id fails rnd found =>
    dsimp only [step2, trackRequest] at hgone
    -- the additions that follow the possible deletion remove nothing
    have hgone' : x ∉ entryIds _ k := fun h => hgone
      (foldlRecOn (motive := fun t => x ∈ entryIds t k) found _ h
        fun t h r _ => add_never_displaces bo t r false false k x h)
    by_cases hc : fails ≥ 5 ∧ (t.bkt (bo id)).entries.length ≥ bucketSize / 4
    · rw [if_pos hc] at hgone'
      obtain ⟨rfl, rfl⟩ := deleteInBucket_ids hx hgone'
      exact .inr (.inr ⟨fails, rnd, found, rfl, rfl, hc.1, hc.2⟩)
    · rw [if_neg hc] at hgone'
      exact absurd hx hgone'

/-- C18 "and is then succeeded by a replacement if one exists": when `deleteInBucket` removes an entry and the
    replacement list is non-empty, one replacement is appended to the entries and removed from the list -/
theorem successor (t : Table) (i id rnd : Nat) (n : TNode)
    (hfind : (t.bkt i).entries.find? (fun m => m.r.id == id) = some n) (hreps : (t.bkt i).reps ≠ []) :
    ∃ rep, rep ∈ (t.bkt i).reps ∧
      ((deleteInBucket t i id rnd).bkt i).entries = (t.bkt i).entries.filter (fun m => m.r.id != id) ++ [rep] ∧
      ((deleteInBucket t i id rnd).bkt i).reps.length + 1 = (t.bkt i).reps.length := by
  have hlen := length_pos_iff.mpr hreps
  have hj : rnd % max (t.bkt i).reps.length 1 < (t.bkt i).reps.length := by
    rw [Nat.max_eq_left hlen]; exact Nat.mod_lt _ hlen
  rw [deleteInBucket_some rnd hfind]
  refine ⟨_, getElem_mem hj, ?_, ?_⟩
  · simp only [upd_same, getElem?_eq_getElem hj, Option.toList_some]
  · simp only [upd_same, length_eraseIdx, if_pos hj]; exact Nat.sub_add_cancel hlen

/-- C18: a newcomer to a full bucket changes no entry; it can only become the first replacement,
    pushing out the oldest one when ten are already waiting -/
theorem full_bucket_newcomer (t : Table) (i : Nat) (r : Rec) :
    ((addReplacement t i r).bkt i).entries = (t.bkt i).entries ∧
    (((addReplacement t i r).bkt i).reps = (t.bkt i).reps ∨
     (∃ wn, wn.r = r ∧ (t.bkt i).reps.length < maxReps ∧ ((addReplacement t i r).bkt i).reps = wn :: (t.bkt i).reps) ∨
     (∃ wn, wn.r = r ∧ ¬ (t.bkt i).reps.length < maxReps ∧
        ((addReplacement t i r).bkt i).reps = wn :: (t.bkt i).reps.dropLast)) := by
  refine ⟨addReplacement_entries t i r i, ?_⟩
  have c := addReplacement_spec t i r
  generalize addReplacement t i r = t' at c ⊢
  cases c with
  | unchanged => exact .inl rfl
  | front t1 _ _ hlen =>
    exact .inr (.inl ⟨mkNode t.nextOid r 0 false, rfl, hlen, by simp only [setReps, upd_same]⟩)
  | evict t1 rm _ _ hlen =>
    refine .inr (.inr ⟨mkNode t.nextOid r 0 false, rfl, hlen, ?_⟩)
    rw [(removeIP_lists ..).2]
    simp only [setReps, upd_same]

/-- C18: a record in the bucket changes only to a higher sequence number, or when the node itself
    contacted us; and if its address or port changed, it is no longer considered verified -/
theorem record_change (t : Table) (i : Nat) (nr : Rec) (inbound : Bool) (n : TNode)
    (hnd : ((t.bkt i).entries.map (·.r.id)).Nodup)
    (hfind : (t.bkt i).entries.find? (fun m => m.r.id == nr.id) = some n) :
    ∀ m ∈ ((bump t i nr inbound).1.bkt i).entries, m.r.id = nr.id →
      m.r = n.r ∨ (m.r = nr ∧ (nr.seq > n.r.seq ∨ inbound = true) ∧
                   ((nr.addr ≠ n.r.addr ∨ nr.port ≠ n.r.port) → m.live = false)) := by
  intro m hm hmid
  obtain ⟨hn, hid⟩ := entryOf_some hfind
  -- ids are unique: in a list made of `y` and the entries with other ids, `m` is `y`
  have pick {l : List TNode} {y : TNode} (hp : l ~ y :: (t.bkt i).entries.filter (·.r.id != nr.id)) (hm : m ∈ l) :
      m = y := by
    rcases mem_cons.mp (hp.mem_iff.mp hm) with h | h
    · exact h
    · exact absurd hmid (bne_iff_ne.mp (mem_filter.mp h).2)
  have newer (h : ¬(nr.seq ≤ n.r.seq ∧ inbound = false)) : nr.seq > n.r.seq ∨ inbound = true := by
    cases inbound
    · exact .inl (Nat.lt_of_not_le fun hle => h ⟨hle, rfl⟩)
    · exact .inr rfl
  obtain ⟨t', e, c⟩ := bump_spec inbound hfind
  rw [e] at hm
  cases c with
  | stale => exact .inl (congrArg TNode.r (pick (hid ▸ perm_filter_id hn hnd) hm))
  | sameAddr h1 hsa =>
    rw [setEntry_entries] at hm
    cases pick (hid ▸ perm_map_id hn hnd _) hm
    refine .inr ⟨rfl, newer h1, fun h => ?_⟩
    rcases h with h | h
    · exact absurd hsa h
    · exact if_pos h
  | refused =>
    rw [(addIP_snd_lists ..).1, (removeIP_lists ..).1] at hm
    exact .inl (congrArg TNode.r (pick (hid ▸ perm_filter_id hn hnd) hm))
  | moved t2 h1 _ hadd =>
    rw [setEntry_entries, (addIP_lists hadd i).1, (removeIP_lists ..).1] at hm
    cases pick (hid ▸ perm_map_id hn hnd _) hm
    exact .inr ⟨rfl, newer h1, fun _ => rfl⟩
/-- C18 credit rule: a failed check divides the credit by three (and deletes at zero), an answered check adds one and
    marks the node verified — by definition of the two updates -/
theorem credit_rule (m : TNode) : (failChecks m).checks = m.checks / 3 ∧ (failChecks m).r = m.r ∧
    (okChecks m).checks = m.checks + 1 ∧ (okChecks m).live = true ∧ (okChecks m).r = m.r := ⟨rfl, rfl, rfl, rfl, rfl⟩

#print axioms full_bucket_newcomer
#print axioms record_change
#print axioms add_never_displaces
#print axioms successor
#print axioms entry_leaves_only_if
end Tb
