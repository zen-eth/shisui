import Shisui.Table.Equations
/-! C07 for the bucket operations. Every step that changes a bucket is an instance of `Inv.exchange`; where an
    operation leaves the table as it was, or rolls a refused record update back exactly (`addIP_removeIP`), the
    invariant is the one it had. The `_inv` lemmas take the table and the operation's arguments, then the range of
    the bucket index (`hi`, `hbo`), then the invariant, then what else the operation needs. -/
namespace Tb
open List

/-- `addReplacement` (newcomer to a full bucket) keeps the invariant, including when the oldest stand-by is pushed
    out and its address is given back -/
theorem addReplacement_inv (bo : Nat → Nat) (t : Table) (r : Rec) (hi : bo r.id < nBuckets) (hinv : Inv bo t)
    (hself : r.id ≠ t.self) (hnew : ∀ n ∈ (t.bkt (bo r.id)).entries, n.r.id ≠ r.id) :
    Inv bo (addReplacement t (bo r.id) r) := by
  have B := hinv.b (bo r.id)
  have hfresh (hhas : hasId (t.bkt (bo r.id)).reps r.id = false) :
      r.id ∉ (nodes (t.bkt (bo r.id))).map (·.r.id) := by
    rw [nodes, map_append, mem_append, not_or]
    exact ⟨fun h => by obtain ⟨n, hn, e⟩ := mem_map.mp h; exact hnew n hn e, hasId_false hhas⟩
  have c := addReplacement_spec t (bo r.id) r
  generalize addReplacement t (bo r.id) r = t' at c ⊢
  cases c with
  | unchanged => exact hinv
  | front t1 hadd hhas hlen =>
    obtain ⟨hvalid, hlim, rfl⟩ := addIP_true hadd
    simp only [setReps, upd_same, upd_upd]
    refine hinv.exchange hi (out := []) (inn := [mkNode t.nextOid r 0 false]) (hself := rfl) (hbkt := rfl)
      (hold := .refl _) (hnew := perm_middle) (hE := B.sizeE) (hR := Nat.succ_le_of_lt hlen)
      (hin := forall_mem_singleton.mpr ⟨⟨rfl, hself, hvalid⟩, hfresh hhas⟩) (hnd := pairwise_singleton ..)
      (hbLo := fun s => ?hbLo) (hbHi := fun s => (hlim s).2 (B.cnt s).2)
      (htLo := fun s => ?htLo) (htHi := fun s => (hlim s).1 (hinv.tcnt s).2)
    case hbLo | htLo =>
      rw [real_singleton, real_nil]
      exact Nat.le_refl _
  | evict t1 rm hadd hhas _ hlast =>
    obtain ⟨hvalid, hlim, rfl⟩ := addIP_true hadd
    simp only [setReps, removeIP_eq, upd_same, upd_upd]
    refine hinv.exchange hi (out := [rm]) (inn := [mkNode t.nextOid r 0 false])
      (rest := (t.bkt (bo r.id)).entries ++ (t.bkt (bo r.id)).reps.dropLast) (hself := rfl) (hbkt := rfl)
      (hold := ((perm_dropLast hlast).append_left _).trans perm_middle) (hnew := perm_middle) (hE := B.sizeE)
      (hR := ?hR)
      (hin := forall_mem_singleton.mpr ⟨⟨rfl, hself, hvalid⟩, fun h =>
        hfresh hhas ((((dropLast_sublist _).append_left _).map _).subset h)⟩)
      (hnd := pairwise_singleton ..)
      (hbLo := fun s => ?hbLo) (hbHi := fun s => Nat.le_trans (Nat.sub_le ..) ((hlim s).2 (B.cnt s).2))
      (htLo := fun s => ?htLo) (htHi := fun s => Nat.le_trans (Nat.sub_le ..) ((hlim s).1 (hinv.tcnt s).2))
    case hR =>
      -- the stand-by pushed out makes room for the newcomer
      exact (perm_dropLast hlast).length_eq ▸ B.sizeR
    case hbLo | htLo =>
      rw [real_singleton, real_singleton]
      exact Nat.le_refl _

/-- a node whose id is no entry yet: a stand-by of that id is dropped from its list but stays counted -/
theorem addNew_inv (bo : Nat → Nat) (t : Table) (r : Rec) (fl : Bool) (hi : bo r.id < nBuckets) (hinv : Inv bo t)
    (hself : r.id ≠ t.self) (hnew : ∀ n ∈ (t.bkt (bo r.id)).entries, n.r.id ≠ r.id) :
    Inv bo (addNew bo t r fl).1 := by
  -- the leaves of `addNew`: case1 the bucket is full, case2 `addIP` refuses the address, case3 the node is appended
  fun_cases addNew bo t r fl with
  | case1 => exact addReplacement_inv bo t r hi hinv hself hnew
  | case2 => exact hinv
  | case3 i hroom t1 hadd wn b1 =>
    obtain ⟨hvalid, hlim, rfl⟩ := addIP_true hadd
    have B := hinv.b (bo r.id)
    simp only [b1, wn, i, upd_same, upd_upd]
    refine hinv.exchange hi (out := (t.bkt (bo r.id)).reps.filter (fun n => !(n.r.id != r.id)))
      (inn := [{ oid := t.nextOid, r := r, checks := if fl then 1 else 0, live := fl }])
      (rest := (t.bkt (bo r.id)).entries ++ (t.bkt (bo r.id)).reps.filter (fun n => n.r.id != r.id))
      (hself := rfl) (hbkt := rfl) (hold := ?hold) (hnew := (Perm.of_eq (append_assoc ..)).trans perm_middle)
      (hE := ?hE) (hR := Nat.le_trans (length_filter_le ..) B.sizeR) (hin := ?hin) (hnd := pairwise_singleton ..)
      (hbLo := fun s => ?hbLo) (hbHi := fun s => (hlim s).2 (B.cnt s).2)
      (htLo := fun s => ?htLo) (htHi := fun s => (hlim s).1 (hinv.tcnt s).2)
    case hold =>
      refine ((filter_append_perm (fun n : TNode => n.r.id != r.id) _).symm.append_left _).trans ?_
      rw [← append_assoc]
      exact perm_append_comm
    case hE =>
      rw [length_append, length_singleton]
      exact Nat.lt_of_not_le hroom
    case hin =>
      refine forall_mem_singleton.mpr ⟨⟨rfl, hself, hvalid⟩, fun h => ?_⟩
      rw [map_append, mem_append] at h
      rcases h with h | h <;> obtain ⟨n, hn, e⟩ := mem_map.mp h
      · exact hnew n hn e
      · exact bne_iff_ne.mp (mem_filter.mp hn).2 e
    case hbLo | htLo =>
      -- the dropped stand-by stays counted
      rw [real_singleton]
      exact Nat.sub_le ..

/-- C07: `deleteInBucket` keeps the invariant, whatever replacement the random source picks -/
theorem deleteInBucket_inv (bo : Nat → Nat) (t : Table) (i id rnd : Nat) (hi : i < nBuckets) (hinv : Inv bo t) :
    Inv bo (deleteInBucket t i id rnd) := by
  cases hfind : entryOf t i id with
  | none => rw [deleteInBucket_none rnd hfind]; exact hinv
  | some n =>
    rw [deleteInBucket_some rnd hfind]
    obtain ⟨hn, rfl⟩ := entryOf_some hfind
    have B := hinv.b i
    have hold := perm_filter_id hn B.entries_nodup
    refine hinv.exchange hi (out := [n]) (inn := []) (hself := rfl) (hbkt := rfl) (hold := hold.append_right _)
      (hnew := ?hnew) (hE := ?hE) (hR := Nat.le_trans (eraseIdx_sublist ..).length_le B.sizeR)
      (hin := fun _ h => nomatch h) (hnd := nodup_nil)
      (hbLo := fun s => ?hbLo) (hbHi := fun s => Nat.le_trans (Nat.sub_le ..) (B.cnt s).2)
      (htLo := fun s => ?htLo) (htHi := fun s => Nat.le_trans (Nat.sub_le ..) (hinv.tcnt s).2)
    case hnew =>
      -- a promoted replacement only moves from one list of the bucket to the other
      exact (Perm.of_eq (append_assoc ..)).trans (.append_left _ (perm_eraseIdx ..).symm)
    case hE =>
      rw [length_append]
      exact Nat.le_trans (Nat.add_le_add_left Option.length_toList_le _)
        (Nat.le_trans (Nat.le_of_eq hold.length_eq.symm) B.sizeE)
    case hbLo | htLo =>
      rw [real_nil, real_singleton, Nat.add_zero]
      exact Nat.le_refl _

/-- the entry is rewritten in a table whose counters have already moved to `c`, `cb`: the order of `bump` -/
theorem setEntry_inv (bo : Nat → Nat) (t : Table) (i id : Nat) (hi : i < nBuckets) (hinv : Inv bo t)
    {n : TNode} (hn : n ∈ (t.bkt i).entries) (hid : n.r.id = id) {f : TNode → TNode} {c cb : Cnt}
    (hfid : (f n).r.id = id) (hv : (f n).r.addr.valid = true)
    (hbLo : ∀ s, (t.bkt i).ips s + delta (f n).r.addr s - delta n.r.addr s ≤ cb s) (hbHi : ∀ s, cb s ≤ bLimit)
    (htLo : ∀ s, t.ips s + delta (f n).r.addr s - delta n.r.addr s ≤ c s) (htHi : ∀ s, c s ≤ tLimit) :
    Inv bo (setEntry { t with ips := c, bkt := upd t.bkt i { t.bkt i with ips := cb } } i id f) := by
  subst hid
  have B := hinv.b i
  have hnd := B.entries_nodup
  have P := B.place n (mem_append_left _ hn)
  have hold := (perm_filter_id hn hnd).append_right (t.bkt i).reps
  simp only [setEntry, upd_same, upd_upd]
  refine hinv.exchange hi (out := [n]) (inn := [f n]) (hself := rfl) (hbkt := rfl) (hold := hold)
    (hnew := (perm_map_id hn hnd f).append_right _) (hE := Nat.le_trans (Nat.le_of_eq (length_map ..)) B.sizeE)
    (hR := B.sizeR) (hin := ?hin) (hnd := pairwise_singleton ..)
    (hbLo := fun s => ?hbLo) (hbHi := hbHi) (htLo := fun s => ?htLo) (htHi := htHi)
  case hin =>
    rw [forall_mem_singleton, hfid]
    exact ⟨⟨P.1, P.2.1, hv⟩, (nodup_cons.mp ((hold.map (·.r.id)).nodup B.nodup)).1⟩
  case hbLo =>
    rw [real_singleton, real_singleton]
    exact hbLo s
  case htLo =>
    rw [real_singleton, real_singleton]
    exact htLo s

theorem setEntry_keep_inv (bo : Nat → Nat) (t : Table) (i id : Nat) (hi : i < nBuckets) (hinv : Inv bo t)
    {n : TNode} (hfind : entryOf t i id = some n) {f : TNode → TNode}
    (hfid : (f n).r.id = n.r.id) (haddr : (f n).r.addr = n.r.addr) : Inv bo (setEntry t i id f) := by
  obtain ⟨hn, hid⟩ := entryOf_some hfind
  have B := hinv.b i
  have same (x s : Nat) : x + delta (f n).r.addr s - delta n.r.addr s ≤ x := by
    rw [haddr, Nat.add_sub_cancel]
    exact Nat.le_refl x
  have := setEntry_inv bo t i id hi hinv hn hid (c := t.ips) (cb := (t.bkt i).ips) (hfid.trans hid)
    (haddr ▸ (B.place n (mem_append_left _ hn)).2.2)
    (fun s => same _ s) (fun s => (B.cnt s).2) (fun s => same _ s) (fun s => (hinv.tcnt s).2)
  rwa [upd_self] at this

/-- `bump` keeps the invariant in whatever bucket it is tried: where it finds the id, placement makes that the
    bucket of the id -/
theorem bump_inv_at (bo : Nat → Nat) (t : Table) (i : Nat) (nr : Rec) (inbound : Bool) (hi : i < nBuckets)
    (hinv : Inv bo t) : Inv bo (bump t i nr inbound).1 := by
  cases hfind : entryOf t i nr.id with
  | none => rw [bump_none inbound hfind]; exact hinv
  | some n =>
    obtain ⟨hn, hid⟩ := entryOf_some hfind
    have B := hinv.b i
    have hnv := (B.place n (mem_append_left _ hn)).2.2
    have hb (s) : delta n.r.addr s ≤ (t.bkt i).ips s ∧ (t.bkt i).ips s ≤ bLimit :=
      ⟨(hinv.delta_le hi (mem_append_left _ hn) s).1, (B.cnt s).2⟩
    have ht (s) : delta n.r.addr s ≤ t.ips s ∧ t.ips s ≤ tLimit :=
      ⟨(hinv.delta_le hi (mem_append_left _ hn) s).2, (hinv.tcnt s).2⟩
    obtain ⟨t', e, c⟩ := bump_spec inbound hfind
    rw [e]
    cases c with
    | stale => exact hinv
    | sameAddr _ hsa => exact setEntry_keep_inv bo t i nr.id hi hinv hfind hid.symm hsa
    | refused =>
      -- the old address is asked for again, which restores the counters
      rw [addIP_removeIP hnv hb ht]; exact hinv
    | moved t2 _ _ hadd =>
      -- the counters give the old address back and take the new one
      rw [removeIP_eq] at hadd
      obtain ⟨hvalid, hlim, rfl⟩ := addIP_true hadd
      simp only [upd_same, upd_upd]
      have hlim' (s) := hlim s
      simp only [upd_same] at hlim'
      exact setEntry_inv bo t i nr.id hi hinv hn hid rfl hvalid
        (hbLo := fun s => Nat.le_of_eq (Nat.sub_add_comm (hb s).1))
        (hbHi := fun s => (hlim' s).2 (Nat.le_trans (Nat.sub_le ..) (hb s).2))
        (htLo := fun s => Nat.le_of_eq (Nat.sub_add_comm (ht s).1))
        (htHi := fun s => (hlim' s).1 (Nat.le_trans (Nat.sub_le ..) (ht s).2))

/-- C07: `bumpInBucket` keeps the invariant: a record update moves the /24 counters with the address, is refused
    (and rolled back exactly) when the new address does not fit the limits -/
theorem bump_inv (bo : Nat → Nat) (t : Table) (nr : Rec) (inbound : Bool) (hi : bo nr.id < nBuckets)
    (hinv : Inv bo t) :
    Inv bo (bump t (bo nr.id) nr inbound).1 := bump_inv_at bo t (bo nr.id) nr inbound hi hinv

/-- C07: `handleAddNode` — every way a node can enter the table (found, inbound, seed, lookup feedback) —
    keeps all structural invariants -/
theorem handleAddNode_inv (bo : Nat → Nat) (hbo : ∀ id, bo id < nBuckets) (t : Table) (r : Rec)
    (inbound forceLive : Bool) (hinv : Inv bo t) :
    Inv bo (handleAddNode bo t r inbound forceLive).1 := by
  -- the leaves of `handleAddNode`: case1 the local node itself, case2 an inbound contact before the table is
  -- initialised, case3 `bump` found the id among the entries, case4 the id is no entry yet
  fun_cases handleAddNode bo t r inbound forceLive with
  | case1 => exact hinv
  | case2 => exact hinv
  | case3 _ _ t' hb =>
    have := bump_inv bo t r inbound (hbo r.id) hinv
    rwa [hb] at this
  | case4 hself _ _ hb => exact addNew_inv bo t r forceLive (hbo r.id) hinv hself (bump_notfound hb)

#print axioms deleteInBucket_inv
#print axioms addReplacement_inv
#print axioms bump_inv
end Tb
