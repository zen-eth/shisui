import Shisui.Table.Ops
/-! The operations of the table's loop above the bucket — revalidation answers (`table_reval.go: handleResponse`),
    lookup feedback (`table.go: handleTrackRequest`) — as compositions of the bucket operations, and C07 over whole
    histories of operations from the empty table. -/
namespace Tb

/-- credit after a failed check: `livenessChecks /= 3` -/
def failChecks (m : TNode) : TNode := { m with checks := m.checks / 3 }
/-- after an answered check: `livenessChecks++; isValidatedLive = true` -/
def okChecks (m : TNode) : TNode := { m with checks := m.checks + 1, live := true }

/-- `handleResponse`, node did not respond. `oid` identifies the node *object* the request was started for
    (Go compares pointers: a response for an object that has left the table is dropped, `revalList == nil`). -/
def revalFail (t : Table) (i id oid rnd : Nat) : Table :=
  match (t.bkt i).entries.find? (fun n => n.r.id == id) with
  | none => t
  | some n =>
    if n.oid ≠ oid then t
    else if n.checks / 3 = 0 then deleteInBucket t i id rnd
    else setEntry t i id failChecks

/-- `handleResponse`, node responded, possibly with a newer record (`nr.id = id`: the transport only returns
    the record of the node it asked, distance 0). -/
def revalOk (t : Table) (i id oid : Nat) (newRec : Option Rec) : Table :=
  match (t.bkt i).entries.find? (fun n => n.r.id == id) with
  | none => t
  | some n =>
    if n.oid ≠ oid then t
    else match newRec with
      | none => setEntry t i id okChecks
      | some nr => (bump (setEntry t i id okChecks) i nr false).1

/-- `handleTrackRequest`: `fails` is the consecutive-failure count after this report (0 on success) -/
def trackRequest (bo : Nat → Nat) (t : Table) (id fails rnd : Nat) (found : List Rec) : Table :=
  found.foldl (fun t r => (handleAddNode bo t r false false).1)
    (if fails ≥ 5 ∧ (t.bkt (bo id)).entries.length ≥ bucketSize / 4 then deleteInBucket t (bo id) id rnd else t)

theorem revalFail_inv (bo : Nat → Nat) (t : Table) (i id oid rnd : Nat) (hi : i < nBuckets) (hinv : Inv bo t) :
    Inv bo (revalFail t i id oid rnd) := by
  -- the leaves of `revalFail`: case1 the id is no entry, case2 the answer is for another node object, case3 the
  -- credit is exhausted: `deleteInBucket`, case4 the credit is divided by three
  fun_cases revalFail t i id oid rnd with
  | case1 => exact hinv
  | case2 => exact hinv
  | case3 => exact deleteInBucket_inv bo t i id rnd hi hinv
  | case4 _ hfind => exact setEntry_keep_inv bo t i id hi hinv hfind rfl rfl

theorem revalOk_inv (bo : Nat → Nat) (t : Table) (i id oid : Nat) (newRec : Option Rec)
    (hi : i < nBuckets) (hinv : Inv bo t) : Inv bo (revalOk t i id oid newRec) := by
  -- the leaves of `revalOk`: case1 the id is no entry, case2 the answer is for another node object, case3 the
  -- credit goes up, case4 it goes up and the new record is taken over by `bump`
  fun_cases revalOk t i id oid newRec with
  | case1 => exact hinv
  | case2 => exact hinv
  | case3 _ hfind => exact setEntry_keep_inv bo t i id hi hinv hfind rfl rfl
  | case4 _ hfind _ nr =>
    exact bump_inv_at bo _ i nr false hi (setEntry_keep_inv bo t i id hi hinv hfind rfl rfl)

theorem trackRequest_inv (bo : Nat → Nat) (hbo : ∀ id, bo id < nBuckets) (t : Table) (id fails rnd : Nat)
    (found : List Rec) (hinv : Inv bo t) : Inv bo (trackRequest bo t id fails rnd found) := by
  unfold trackRequest
  refine List.foldlRecOn found _ ?_ fun t h r _ => handleAddNode_inv bo hbo t r false false h
  split
  · exact deleteInBucket_inv bo t (bo id) id rnd (hbo id) hinv
  · exact hinv

def emptyTable (me : Nat) : Table :=
  { self := me, bkt := fun _ => { entries := [], reps := [], ips := fun _ => 0 }, ips := fun _ => 0,
    nextOid := 0, initDone := true }

theorem inv_empty (bo : Nat → Nat) (me : Nat) : Inv bo (emptyTable me) := by
  constructor
  · intro i
    constructor <;> simp [emptyTable, nodes, real, bucketSize, maxReps]
  · intro s
    simp [sumReal, sumTo, emptyTable, nodes, List.map_const', List.sum_replicate_nat]

inductive Op2 where
  | add (r : Rec) (inbound forceLive : Bool)
  | delete (id rnd : Nat)
  | revalFail (id oid rnd : Nat)
  | revalOk (id oid : Nat) (newRec : Option Rec)     -- `newRec`, when present, is a record of node `id`
  | track (id fails rnd : Nat) (found : List Rec)

def Op2.wf : Op2 → Prop
  | .revalOk id _ newRec => ∀ nr, newRec = some nr → nr.id = id
  | _ => True

def step2 (bo : Nat → Nat) (t : Table) : Op2 → Table
  | .add r inb fl => (handleAddNode bo t r inb fl).1
  | .delete id rnd => deleteInBucket t (bo id) id rnd
  | .revalFail id oid rnd => revalFail t (bo id) id oid rnd
  | .revalOk id oid nr => revalOk t (bo id) id oid nr
  | .track id fails rnd found => trackRequest bo t id fails rnd found

/-- C07 for one step, of every operation: `Op2.wf` is no hypothesis (`bump` acts only where it finds the id of the
    record it is given) -/
theorem step2_inv (bo : Nat → Nat) (hbo : ∀ id, bo id < nBuckets) (t : Table) (op : Op2)
    (hinv : Inv bo t) : Inv bo (step2 bo t op) := by
  cases op with
  | add r inb fl => exact handleAddNode_inv bo hbo t r inb fl hinv
  | delete id rnd => exact deleteInBucket_inv bo t (bo id) id rnd (hbo id) hinv
  | revalFail id oid rnd => exact revalFail_inv bo t (bo id) id oid rnd (hbo id) hinv
  | revalOk id oid nr => exact revalOk_inv bo t (bo id) id oid nr (hbo id) hinv
  | track id fails rnd found => exact trackRequest_inv bo hbo t id fails rnd found hinv

/-- C07 over whole histories: every table reached from the empty one by ANY sequence of additions, deletions,
    revalidation answers and lookup reports satisfies the structural invariant -/
theorem inv_reachable2 (bo : Nat → Nat) (hbo : ∀ id, bo id < nBuckets) (me : Nat) (ops : List Op2) :
    Inv bo (ops.foldl (step2 bo) (emptyTable me)) :=
  List.foldlRecOn ops _ (inv_empty bo me) fun t h op _ => step2_inv bo hbo t op h

/-- the histories of additions and deletions alone -/
inductive Op where
  | add (r : Rec) (inbound forceLive : Bool)
  | delete (id rnd : Nat)

def step (bo : Nat → Nat) (t : Table) : Op → Table
  | .add r inb fl => (handleAddNode bo t r inb fl).1
  | .delete id rnd => deleteInBucket t (bo id) id rnd

theorem inv_reachable (bo : Nat → Nat) (hbo : ∀ id, bo id < nBuckets) (me : Nat) (ops : List Op) :
    Inv bo (ops.foldl (step bo) (emptyTable me)) := by
  refine List.foldlRecOn ops _ (inv_empty bo me) fun t h op _ => ?_
  cases op with
  | add r inb fl => exact step2_inv bo hbo t (.add r inb fl) h
  | delete id rnd => exact step2_inv bo hbo t (.delete id rnd) h

#print axioms inv_reachable
#print axioms inv_reachable2
end Tb
