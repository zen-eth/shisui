/-! # History content validation (C02) — decision logic of `HistoryValidator.ValidateContent`

Two layers.

* **Observation level** (executable; what the driver runs): the validator's verdict as a function of the parsed key, of
  what the content *decodes to* (header fields + hash, recomputed body/receipt roots, verdict of the C03 proof check) and
  of what the header source answered for the key's block hash. Mirrors `HistoryValidator.ValidateContent`
  (history/validation.go), `ValidateBlockBodyBytes`, `validateBlockBody` and `ValidatePortalReceiptsBytes`
  (history/history_network.go) and `ValidationOracle.GetBlockHeaderByHash` (validation/oracle.go).
* **Byte level** (the theorems): the same function composed with an arbitrary decoding environment `Env` (go-ethereum's
  rlp/keccak/`DeriveSha`/`CalcUncleHash`, the SSZ containers, the header-proof check of C03 — all parameters, nothing is
  assumed about them) and an arbitrary header source `rpc` (what `portal_historyGetContent` returns: it may lie).

`Quirks` switches on the deviations of the tree as it was found (each repaired in /repo since: the commit is named at the
switch); `{}` is the ideal model, which the theorems are about and the driver runs beside the code. Hashes and roots are
byte strings (`List Nat`); `Hdr.hash` is the hash *computed from the decoded header* (never a claimed one). -/
namespace Hc

abbrev Bytes := List Nat

/-- what the validator reads of a decoded execution header; `hash` = keccak256(rlp(header)) recomputed from it,
    `number` = `header.Number.Uint64()` -/
structure Hdr where
  hash : Bytes
  number : Nat
  txRoot : Bytes
  uncleRoot : Bytes
  wdRoot : Option Bytes          -- header.WithdrawalsHash (nil before Shanghai)
  receiptRoot : Bytes
deriving DecidableEq, Repr

/-- roots recomputed from a decoded body (`DeriveSha`, `CalcUncleHash`) -/
structure Body where
  txRoot : Bytes
  uncleRoot : Bytes
  wdRoot : Option Bytes          -- none: legacy encoding (no withdrawals list)
deriving DecidableEq, Repr

inductive Key where
  | headerByHash (h : Bytes) | headerByNumber (n : Nat) | body (h : Bytes) | receipts (h : Bytes)
deriving DecidableEq, Repr

/-- verdict of the header-proof check (C03, `ValidateHeaderAndProof`) -/
inductive PV | ok | err | panic
deriving DecidableEq, Repr

inductive Content where
  | header (hd : Hdr) (pv : PV)            -- decoded header + verdict of the proof check on it
  | body (b : Body)
  | receipts (root : Bytes) (empty : Bool) -- recomputed receipt root; whether the content bytes are empty
  | undecodable
deriving DecidableEq, Repr

structure Quirks where
  /-- `validation/oracle.go`, `GetBlockHeaderByHash` as found: the looked-up header was not compared with the requested
      hash (repaired in /repo by 77e9eff) -/
  oracleUnbound : Bool := false
  /-- `history_network.go`, `validateBlockBody` as found: a body without a withdrawals list passed whatever the header
      commits to (repaired by 265171a) -/
  legacyBodySkipsWithdrawals : Bool := false
  /-- the same function as found: nil `header.WithdrawalsHash` dereferenced for a Shanghai-format body (repaired by
      265171a) -/
  nilWithdrawalsHashDeref : Bool := false
  /-- `validation/header_validator.go` as found (C03): the proof check itself panicked on `HistoricalRoots[slot/8192]` and
      `HistoricalEpochs[epochIndex]` out of range (repaired by 672fa68, 13d4b89) -/
  headerProofPanics : Bool := false
  /-- `history/validation.go`, `ValidateContent` as found: `contentKey[0]` on an empty key (repaired by e82cfcd) -/
  emptyKeyPanics : Bool := false
deriving DecidableEq, Repr

inductive Out | ok | err | panic
deriving DecidableEq, Repr

/-- keccak256(rlp([])) — `emptyReceiptHash` of history_network.go -/
def emptyReceiptRoot : Bytes :=
  [0x56, 0xe8, 0x1f, 0x17, 0x1b, 0xcc, 0x55, 0xa6, 0xff, 0x83, 0x45, 0xe6, 0x92, 0xc0, 0xf8, 0x6e,
   0x5b, 0x48, 0xe0, 0x1b, 0x99, 0x6c, 0xad, 0xc0, 0x01, 0x62, 0x2f, 0xb5, 0xe3, 0x63, 0xb4, 0x21]

/-- the header source as the validator sees it (`GetBlockHeaderByHash`): `src h` is the header the looked-up content
    decodes to, if any -/
def lookup (q : Quirks) (src : Bytes → Option Hdr) (h : Bytes) : Option Hdr :=
  match src h with
  | some hd => if q.oracleUnbound || hd.hash = h then some hd else none
  | none => none

def proofOut (q : Quirks) : PV → Out
  | .ok => .ok
  | .err => .err
  | .panic => if q.headerProofPanics then .panic else .err

def bodyOut (q : Quirks) (b : Body) (hd : Hdr) : Out :=
  if b.uncleRoot ≠ hd.uncleRoot then .err
  else if b.txRoot ≠ hd.txRoot then .err
  else match b.wdRoot, hd.wdRoot with
    | none, none => .ok
    | none, some _ => if q.legacyBodySkipsWithdrawals then .ok else .err
    | some _, none => if q.nilWithdrawalsHashDeref then .panic else .err
    | some w, some w' => if w = w' then .ok else .err

def receiptsOut (root : Bytes) (empty : Bool) (hd : Hdr) : Out :=
  if hd.receiptRoot = emptyReceiptRoot then (if empty then .ok else .err)
  else if root = hd.receiptRoot then .ok else .err

/-- `ValidateContent` on a parsed key and decoded content -/
def validate (q : Quirks) (src : Bytes → Option Hdr) : Key → Content → Out
  | .headerByHash h, .header hd pv => if hd.hash = h then proofOut q pv else .err
  | .headerByNumber n, .header hd pv => if hd.number = n then proofOut q pv else .err
  | .body h, .body b =>
    match lookup q src h with
    | none => .err
    | some hd => bodyOut q b hd
  | .receipts h, .receipts root empty =>
    match lookup q src h with
    | none => .err
    | some hd => receiptsOut root empty hd
  | _, _ => .err

def leNat : Bytes → Nat
  | [] => 0
  | b :: rest => b + 256 * leNat rest

/-- content key → selector and payload (`types/history/types.go`; number keys: 8 little-endian bytes, a longer payload
    is read up to its eighth byte, as ztyp's `Uint64View.Deserialize` does) -/
def parseKey : Bytes → Option Key
  | [] => none
  | sel :: p =>
    if sel = 0 then some (.headerByHash p)
    else if sel = 1 then some (.body p)
    else if sel = 2 then some (.receipts p)
    else if sel = 3 then (if 8 ≤ p.length then some (.headerByNumber (leNat (p.take 8))) else none)
    else none

/-- `ValidateContent` on key bytes and decoded content -/
def validateKey (q : Quirks) (src : Bytes → Option Hdr) (key : Bytes) (c : Content) : Out :=
  if key = [] then (if q.emptyKeyPanics then .panic else .err)
  else match parseKey key with
    | none => .err
    | some k => validate q src k c

/-- bound to its key, relative to what the header source answered -/
def BoundObs (src : Bytes → Option Hdr) : Key → Content → Prop
  | .headerByHash h, .header hd pv => hd.hash = h ∧ pv = .ok
  | .headerByNumber n, .header hd pv => hd.number = n ∧ pv = .ok
  | .body h, .body b =>
    ∃ hd, src h = some hd ∧ hd.hash = h ∧ b.txRoot = hd.txRoot ∧ b.uncleRoot = hd.uncleRoot ∧ b.wdRoot = hd.wdRoot
  | .receipts h, .receipts root empty =>
    ∃ hd, src h = some hd ∧ hd.hash = h ∧
      (if hd.receiptRoot = emptyReceiptRoot then empty = true else root = hd.receiptRoot)
  | _, _ => False

/-- `o` is the verdict of a check that cannot panic and says `ok` exactly when `P` holds -/
inductive Out.Decides (P : Prop) : Out → Prop
  | ok : P → Decides P .ok
  | err : ¬ P → Decides P .err

namespace Out.Decides
variable {P Q : Prop} {o : Out}

theorem ok_iff (h : o.Decides P) : o = .ok ↔ P := by
  cases h with
  | ok hp => exact ⟨fun _ => hp, fun _ => rfl⟩
  | err hn => exact ⟨nofun, fun hp => absurd hp hn⟩

theorem ne_panic (h : o.Decides P) : o ≠ .panic := by
  cases h <;> nofun

theorem congr (h : o.Decides P) (e : P ↔ Q) : o.Decides Q := by
  cases h with
  | ok hp => exact .ok (e.1 hp)
  | err hn => exact .err (mt e.2 hn)

theorem ite (P : Prop) [Decidable P] : (if P then Out.ok else .err).Decides P := by
  split
  next hp => exact .ok hp
  next hn => exact .err hn

theorem guard (c : Prop) [Decidable c] (h : o.Decides P) : (if c then o else .err).Decides (c ∧ P) := by
  split
  next hc => exact h.congr (and_iff_right hc).symm
  next hn => exact .err fun hcp => hn hcp.1

end Out.Decides

theorem lookup_ideal (src : Bytes → Option Hdr) (h : Bytes) (hd : Hdr) :
    lookup {} src h = some hd ↔ src h = some hd ∧ hd.hash = h := by
  unfold lookup
  cases src h with
  | none => exact ⟨nofun, fun e => nomatch e.1⟩
  | some hd' =>
    simp only [Bool.false_or, decide_eq_true_eq, Option.some.injEq]
    split
    next hh => exact ⟨fun e => by cases e; exact ⟨rfl, hh⟩, fun e => e.1 ▸ rfl⟩
    next hn => exact ⟨nofun, fun e => absurd (e.1 ▸ e.2) hn⟩

theorem proofOut_decides (pv : PV) : (proofOut {} pv).Decides (pv = .ok) := by
  cases pv
  · exact .ok rfl
  · exact .err nofun
  · exact .err nofun

theorem bodyOut_decides (b : Body) (hd : Hdr) :
    (bodyOut {} b hd).Decides (b.txRoot = hd.txRoot ∧ b.uncleRoot = hd.uncleRoot ∧ b.wdRoot = hd.wdRoot) := by
  unfold bodyOut
  rw [ite_not, ite_not]
  -- the code tests the uncle root first, then the transaction root; the statement lists them the other way round
  refine (Out.Decides.guard _ (.guard _ ?_)).congr and_left_comm
  cases b.wdRoot <;> cases hd.wdRoot
  · exact .ok rfl
  · exact .err nofun
  · exact .err nofun
  · exact (Out.Decides.ite _).congr Option.some_inj.symm

theorem receiptsOut_decides (root : Bytes) (empty : Bool) (hd : Hdr) :
    (receiptsOut root empty hd).Decides
      (if hd.receiptRoot = emptyReceiptRoot then empty = true else root = hd.receiptRoot) := by
  unfold receiptsOut
  split <;> exact .ite _

/-- a check on the header the ideal oracle returns for `h`. Stated with the very `match` of `validate` (one file, hence one
    matcher), so that it applies there by `exact`: two matchers on a stuck discriminant are not unified, which rules out a
    generic lemma over `Option`; `keyed_decides` below is stated the same way for the same reason. -/
theorem lookup_decides {f : Hdr → Out} {R : Hdr → Prop} (src : Bytes → Option Hdr) (h : Bytes)
    (hf : ∀ hd, (f hd).Decides (R hd)) :
    (match lookup {} src h with | none => Out.err | some hd => f hd).Decides
      (∃ hd, src h = some hd ∧ hd.hash = h ∧ R hd) := by
  cases hl : lookup {} src h with
  | none =>
    refine .err ?_
    rintro ⟨hd, hs, hh, _⟩
    exact nomatch hl ▸ (lookup_ideal src h hd).2 ⟨hs, hh⟩
  | some hd =>
    obtain ⟨hs, hh⟩ := (lookup_ideal src h hd).1 hl
    refine (hf hd).congr ⟨fun hr => ⟨hd, hs, hh, hr⟩, ?_⟩
    rintro ⟨_, hs', _, hr⟩
    cases hs.symm.trans hs'
    exact hr

theorem validate_decides (src : Bytes → Option Hdr) (k : Key) (c : Content) :
    (validate {} src k c).Decides (BoundObs src k c) := by
  cases k with
  | headerByHash x | headerByNumber x =>
    cases c with
    | header hd pv => exact (proofOut_decides pv).guard _
    | _ => exact .err id
  | body h =>
    cases c with
    | body b => exact lookup_decides src h (bodyOut_decides b)
    | _ => exact .err id
  | receipts h =>
    cases c with
    | receipts root empty => exact lookup_decides src h (receiptsOut_decides root empty)
    | _ => exact .err id

/-- the key bytes in front of a check on the parsed key: the shape of `validateKey {}` and `validateContent env {}` -/
theorem keyed_decides {f : Key → Out} {R : Key → Prop} (key : Bytes) (hf : ∀ k, (f k).Decides (R k)) :
    (if key = [] then Out.err else match parseKey key with | none => .err | some k => f k).Decides
      (∃ k, parseKey key = some k ∧ R k) := by
  cases hk : parseKey key with
  | none =>
    rw [ite_self]                         -- `err` on either side of the test for the empty key
    exact .err nofun
  | some k =>
    rw [if_neg fun e => nomatch e ▸ hk]   -- a key that parses is not empty: `parseKey [] = none`
    exact (hf k).congr ⟨fun h => ⟨k, rfl, h⟩, fun ⟨_, e, h⟩ => by cases e; exact h⟩

theorem validateKey_decides (src : Bytes → Option Hdr) (key : Bytes) (c : Content) :
    (validateKey {} src key c).Decides (∃ k, parseKey key = some k ∧ BoundObs src k c) :=
  keyed_decides key fun k => validate_decides src k c

theorem validateKey_never_panics (src : Bytes → Option Hdr) (key : Bytes) (c : Content) :
    validateKey {} src key c ≠ .panic :=
  (validateKey_decides src key c).ne_panic

/-- the decoders and hash/root functions the validator calls, as parameters (nothing is assumed about them) -/
structure Env where
  /-- SSZ `BlockHeaderWithProof` → (header rlp, proof bytes) -/
  decodeHWP : Bytes → Option (Bytes × Bytes)
  /-- rlp header → the fields read, with the hash recomputed from the decoded header -/
  decodeHeader : Bytes → Option Hdr
  /-- C03: `HeaderValidator.ValidateHeaderAndProof` against the built-in accumulators -/
  proofCheck : Hdr → Bytes → PV
  /-- `DecodePortalBlockBodyBytes` followed by `DeriveSha`/`CalcUncleHash` on the decoded body -/
  decodeBody : Bytes → Option Body
  /-- `DecodeReceipts` followed by `DeriveSha` -/
  decodeReceipts : Bytes → Option Bytes

/-- the header the content returned by `portal_historyGetContent` for key `00 ‖ h` decodes to
    (`ValidationOracle.GetBlockHeaderByHash` up to, not including, any comparison with `h`) -/
def srcOf (env : Env) (rpc : Bytes → Option Bytes) (h : Bytes) : Option Hdr :=
  match rpc (0 :: h) with
  | none => none
  | some content =>
    match env.decodeHWP content with
    | none => none
    | some hp => env.decodeHeader hp.1

theorem srcOf_decodes (env : Env) (rpc : Bytes → Option Bytes) (h : Bytes) (hd : Hdr)
    (hs : srcOf env rpc h = some hd) : ∃ hb, env.decodeHeader hb = some hd := by
  unfold srcOf at hs
  split at hs
  · cases hs
  · split at hs
    · cases hs
    · exact ⟨_, hs⟩

/-- `ValidationOracle.GetBlockHeaderByHash` -/
def oracleLookup (env : Env) (q : Quirks) (rpc : Bytes → Option Bytes) (h : Bytes) : Option Hdr :=
  lookup q (srcOf env rpc) h

def observeHeader (env : Env) (content : Bytes) : Content :=
  match env.decodeHWP content with
  | none => .undecodable
  | some hp =>
    match env.decodeHeader hp.1 with
    | none => .undecodable
    | some hd => .header hd (env.proofCheck hd hp.2)

/-- `observeHeader` read backwards, for any property `Q` of the observation that `undecodable` does not have: the two header
    keys use it with `Q := BoundObs src k` -/
theorem observeHeader_elim {env : Env} {content : Bytes} {Q : Content → Prop} (hu : ¬ Q .undecodable)
    (h : Q (observeHeader env content)) :
    ∃ hb pf hd, env.decodeHWP content = some (hb, pf) ∧ env.decodeHeader hb = some hd ∧
      Q (.header hd (env.proofCheck hd pf)) := by
  unfold observeHeader at h
  split at h
  next => exact absurd h hu
  next hp hwp =>
    split at h
    next => exact absurd h hu
    next hd hdec => exact ⟨hp.1, hp.2, hd, hwp, hdec, h⟩

/-- what the content decodes to under a key of the given type -/
def observe (env : Env) (k : Key) (content : Bytes) : Content :=
  match k with
  | .headerByHash _ => observeHeader env content
  | .headerByNumber _ => observeHeader env content
  | .body _ =>
    match env.decodeBody content with
    | some b => .body b
    | none => .undecodable
  | .receipts _ =>
    if content = [] then .receipts emptyReceiptRoot true
    else match env.decodeReceipts content with
      | some r => .receipts r false
      | none => .undecodable

/-- `HistoryValidator.ValidateContent(contentKey, content)` with the real `ValidationOracle` over the header source `rpc` -/
def validateContent (env : Env) (q : Quirks) (rpc : Bytes → Option Bytes) (key content : Bytes) : Out :=
  if key = [] then (if q.emptyKeyPanics then .panic else .err)
  else match parseKey key with
    | none => .err
    | some k => validate q (srcOf env rpc) k (observe env k content)

theorem validateContent_decides (env : Env) (rpc : Bytes → Option Bytes) (key content : Bytes) :
    (validateContent env {} rpc key content).Decides
      (∃ k, parseKey key = some k ∧ BoundObs (srcOf env rpc) k (observe env k content)) :=
  keyed_decides key fun k => validate_decides (srcOf env rpc) k (observe env k content)

/-- "there is a header whose (recomputed) hash is `h`": header bytes that decode to it -/
def HeaderWithHash (env : Env) (h : Bytes) (hd : Hdr) : Prop :=
  (∃ hb, env.decodeHeader hb = some hd) ∧ hd.hash = h

/-- C02's "cryptographically tied to the key": no reference to any header source -/
def Bound (env : Env) (key content : Bytes) : Prop :=
  match parseKey key with
  | none => False
  | some (.headerByHash h) =>
    ∃ hb pf hd, env.decodeHWP content = some (hb, pf) ∧ env.decodeHeader hb = some hd ∧
      hd.hash = h ∧ env.proofCheck hd pf = .ok
  | some (.headerByNumber n) =>
    ∃ hb pf hd, env.decodeHWP content = some (hb, pf) ∧ env.decodeHeader hb = some hd ∧
      hd.number = n ∧ env.proofCheck hd pf = .ok
  | some (.body h) =>
    ∃ b hd, env.decodeBody content = some b ∧ HeaderWithHash env h hd ∧
      b.txRoot = hd.txRoot ∧ b.uncleRoot = hd.uncleRoot ∧ b.wdRoot = hd.wdRoot
  | some (.receipts h) =>
    ∃ hd, HeaderWithHash env h hd ∧
      (if hd.receiptRoot = emptyReceiptRoot then content = []
       else content ≠ [] ∧ env.decodeReceipts content = some hd.receiptRoot)

/-- forgetting the header source: bound relative to the answers of `src` is bound, whatever `src` is, provided the headers
    it answers with decode -/
theorem bound_of_boundObs {env : Env} {src : Bytes → Option Hdr}
    (hsrc : ∀ h hd, src h = some hd → ∃ hb, env.decodeHeader hb = some hd) {key content : Bytes}
    (h : ∃ k, parseKey key = some k ∧ BoundObs src k (observe env k content)) : Bound env key content := by
  obtain ⟨k, hk, hb⟩ := h
  rw [Bound, hk]
  cases k with
  | headerByHash x | headerByNumber x => exact observeHeader_elim (Q := BoundObs src _) id hb
  | body h =>
    rw [observe] at hb
    split at hb
    next b hdec =>                    -- `decodeBody content = some b`
      obtain ⟨hd, hs, hh, hr⟩ := hb
      exact ⟨b, hd, hdec, ⟨hsrc h hd hs, hh⟩, hr⟩
    next => exact hb.elim
  | receipts h =>
    rw [observe] at hb
    split at hb
    next hc =>                        -- `content = []`: observed as the empty root, `empty = true`
      obtain ⟨hd, hs, hh, hr⟩ := hb
      refine ⟨hd, ⟨hsrc h hd hs, hh⟩, ?_⟩
      split
      next => exact hc
      next he =>                      -- the header's root is not the empty one, yet equals the observed one
        rw [if_neg he] at hr
        exact absurd hr.symm he
    next hc =>                        -- `content ≠ []`
      split at hb
      next r hdec =>                  -- `decodeReceipts content = some r`: observed as `r`, `empty = false`
        obtain ⟨hd, hs, hh, hr⟩ := hb
        refine ⟨hd, ⟨hsrc h hd hs, hh⟩, ?_⟩
        split
        next he =>                    -- the header has the empty root: `hr : false = true`
          rw [if_pos he] at hr
          cases hr
        next he =>
          rw [if_neg he] at hr
          exact ⟨hc, hr ▸ hdec⟩
      next => exact hb.elim           -- `decodeReceipts content = none`

/-- C02 (ideal model), soundness: whatever the header source answers, accepted content is bound to its key -/
theorem accept_sound (env : Env) (rpc : Bytes → Option Bytes) (key content : Bytes)
    (hv : validateContent env {} rpc key content = .ok) : Bound env key content :=
  bound_of_boundObs (srcOf_decodes env rpc) ((validateContent_decides env rpc key content).ok_iff.1 hv)

/-- ideal model: no input makes the validator panic -/
theorem never_panics (env : Env) (rpc : Bytes → Option Bytes) (key content : Bytes) :
    validateContent env {} rpc key content ≠ .panic :=
  (validateContent_decides env rpc key content).ne_panic

/-- C02 (ideal model), "any other byte string under that key is rejected with an error": of the three verdicts the two
    theorems above leave this one -/
theorem reject_total (env : Env) (rpc : Bytes → Option Bytes) (key content : Bytes)
    (hn : ¬ Bound env key content) : validateContent env {} rpc key content = .err :=
  match hv : validateContent env {} rpc key content with
  | .ok => absurd (accept_sound env rpc key content hv) hn
  | .err => rfl
  | .panic => absurd hv (never_panics env rpc key content)

/-- no two decodable headers share a hash (what collision resistance of keccak256∘rlp gives). No theorem assumes it:
    `HeaderWithHash.eq_or_collision` keeps the collision as an explicit alternative instead. -/
def HashInjective (env : Env) : Prop :=
  ∀ hb hb' hd hd', env.decodeHeader hb = some hd → env.decodeHeader hb' = some hd' → hd.hash = hd'.hash → hd = hd'

/-- "THE header with hash `h`": a header with that hash is any given one, or the two collide -/
theorem HeaderWithHash.eq_or_collision {env : Env} {h : Bytes} {hd : Hdr} (hw : HeaderWithHash env h hd)
    (hd' : Hdr) (hh : hd'.hash = h) :
    hd = hd' ∨ ∃ hb hd, env.decodeHeader hb = some hd ∧ hd.hash = hd'.hash ∧ hd ≠ hd' :=
  (Decidable.em (hd = hd')).imp_right fun he => have ⟨⟨hb, hdec⟩, e⟩ := hw; ⟨hb, hd, hdec, e.trans hh.symm, he⟩

def hx (n : Nat) : Bytes := [n]

/-- the tree as found (`oracleUnbound`): a lying header source gets a forged body accepted under a key whose hash no served
    header has -/
theorem quirk_oracle_unbound_breaks_C02 :
    let forged : Hdr := { hash := hx 99, number := 1, txRoot := hx 7, uncleRoot := hx 8, wdRoot := none, receiptRoot := hx 9 }
    let b : Body := { txRoot := hx 7, uncleRoot := hx 8, wdRoot := none }
    validate { oracleUnbound := true } (fun _ => some forged) (.body (hx 42)) (.body b) = .ok ∧
    validate {} (fun _ => some forged) (.body (hx 42)) (.body b) = .err ∧
    ¬ BoundObs (fun _ => some forged) (.body (hx 42)) (.body b) :=
  ⟨by decide, by decide, fun hb => absurd ((validate_decides _ _ _).ok_iff.2 hb) (by decide)⟩

end Hc
