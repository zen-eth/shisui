import Shisui.History.Content
/-! # The gate in front of the history store and the block getters (C02)

`Network.validateContents` and `GetBlockHeader/GetBlockBody/GetReceipts` (`history/history_network.go`) over an abstract
validator `v : K → C → Out`, an abstract decoder and an abstract store (newest binding first).
The theorems say that nothing reaches the store, and nothing is returned, that the validator did not accept — for every
validator, item list, store content and remote answer. -/
namespace Hg
open Hc (Out)

variable {K C R : Type} [DecidableEq K]

abbrev Store (K C : Type) := List (K × C)

def get (st : Store K C) (k : K) : Option C :=
  match st with
  | [] => none
  | (k', c) :: rest => if k' = k then some c else get rest k

def put (st : Store K C) (k : K) (c : C) : Store K C := (k, c) :: st

theorem get_mem (st : Store K C) (k : K) (c : C) (h : get st k = some c) : (k, c) ∈ st := by
  induction st with
  | nil => cases h
  | cons p rest ih =>
    rw [get] at h
    split at h
    next hk =>
      cases h
      subst hk
      exact List.mem_cons_self ..
    next => exact List.mem_cons_of_mem _ (ih h)

/-- `validateContents`: items already stored are skipped, the first rejected item ends the call, accepted items are put.
    Returns the store and the list of puts made (oldest first). -/
def gate (v : K → C → Out) : Store K C → List (K × C) → Store K C × List (K × C) × Out
  | st, [] => (st, [], .ok)
  | st, (k, c) :: rest =>
    match get st k with
    | some _ => gate v st rest
    | none =>
      match v k c with
      | .ok =>
        let r := gate v (put st k c) rest
        (r.1, (k, c) :: r.2.1, r.2.2)
      | .err => (st, [], .err)
      | .panic => (st, [], .panic)

theorem gate_puts_validated (v : K → C → Out) (items : List (K × C)) (st : Store K C) :
    ∀ p ∈ (gate v st items).2.1, p ∈ items ∧ v p.1 p.2 = .ok := by
  fun_induction gate v st items with
  | case2 st k c rest _ _ ih =>     -- already stored: skipped
    exact fun p hp => ⟨List.mem_cons_of_mem _ (ih p hp).1, (ih p hp).2⟩
  | case3 st k c rest _ hv r ih =>  -- accepted: put
    intro p hp
    rcases List.mem_cons.1 hp with rfl | hp
    · exact ⟨List.mem_cons_self .., hv⟩
    · exact ⟨List.mem_cons_of_mem _ (ih p hp).1, (ih p hp).2⟩
  | _ => exact fun _ hp => absurd hp List.not_mem_nil   -- no item left, or a rejected one: no put

theorem gate_store (v : K → C → Out) (items : List (K × C)) (st : Store K C) :
    (gate v st items).1 = (gate v st items).2.1.reverse ++ st := by
  fun_induction gate v st items with
  | case2 _ _ _ _ _ _ ih => exact ih
  | case3 st k c rest _ _ r ih =>
    rw [List.reverse_cons, List.append_assoc]
    exact ih
  | _ => rfl

/-- a block getter: the stored content is decoded and returned as is; otherwise the looked-up content must pass the
    validator and decode, is put, and its decoding returned. Result: store, put made, value returned (none = error). -/
def getter (v : K → C → Out) (dec : C → Option R) (st : Store K C) (remote : K → Option C) (k : K) :
    Store K C × Option (K × C) × Option R × Out :=
  match get st k with
  | some c => (st, none, dec c, .ok)
  | none =>
    match remote k with
    | none => (st, none, none, .err)
    | some c =>
      match v k c with
      | .ok =>
        match dec c with
        | some r => (put st k c, some (k, c), some r, .ok)
        | none => (st, none, none, .err)
      | .err => (st, none, none, .err)
      | .panic => (st, none, none, .panic)

theorem getter_cases (v : K → C → Out) (dec : C → Option R) (st : Store K C) (remote : K → Option C) (k : K) :
    (∃ c, get st k = some c ∧ getter v dec st remote k = (st, none, dec c, .ok)) ∨
    (∃ c r, remote k = some c ∧ v k c = .ok ∧ dec c = some r ∧
      getter v dec st remote k = (put st k c, some (k, c), some r, .ok)) ∨
    (∃ o, getter v dec st remote k = (st, none, none, o)) := by
  fun_cases getter v dec st remote k
  case case1 c hg => exact .inl ⟨c, hg, rfl⟩                             -- served from the store
  case case3 hg c hrem hv r hdec => exact .inr (.inl ⟨c, r, hrem, hv, hdec, rfl⟩)   -- looked up, accepted, decoded: put
  all_goals exact .inr (.inr ⟨_, rfl⟩)                                   -- failed at one of these points

/-- one step of the node's life as far as the history store is concerned; every step carries the validator it ran with
    (the header source, and with it the validator's answers, may change from one step to the next) -/
inductive Op (K C : Type) where
  | offered (v : K → C → Out) (items : List (K × C))           -- validateContents on the items of one accepted offer
  | fetch (v : K → C → Out) (remote : K → Option C) (k : K)    -- a block getter

def Op.validator : Op K C → (K → C → Out)
  | .offered v _ => v
  | .fetch v _ _ => v

def step (dec : C → Option R) (st : Store K C) : Op K C → Store K C
  | .offered v items => (gate v st items).1
  | .fetch v remote k => (getter v dec st remote k).1

def run (dec : C → Option R) : Store K C → List (Op K C) → Store K C
  | st, [] => st
  | st, op :: ops => run dec (step dec st op) ops

theorem step_mem (dec : C → Option R) (st : Store K C) (op : Op K C) (p : K × C) (hp : p ∈ step dec st op) :
    p ∈ st ∨ op.validator p.1 p.2 = .ok := by
  cases op with
  | offered v items =>
    rw [step, gate_store, List.mem_append, List.mem_reverse] at hp
    exact hp.symm.imp_right fun h => (gate_puts_validated v items st p h).2
  | fetch v remote k =>
    rcases getter_cases v dec st remote k with ⟨_, _, e⟩ | ⟨c, _, _, hv, _, e⟩ | ⟨_, e⟩ <;> rw [step, e] at hp
    · exact .inl hp
    · exact (List.mem_cons.1 hp).symm.imp_right fun (h : p = (k, c)) => h ▸ hv
    · exact .inl hp

theorem run_mem (dec : C → Option R) (ops : List (Op K C)) (st : Store K C) (p : K × C) (hp : p ∈ run dec st ops) :
    p ∈ st ∨ ∃ op ∈ ops, op.validator p.1 p.2 = .ok := by
  induction ops generalizing st with
  | nil => exact .inl hp
  | cons op rest ih =>
    rcases ih _ hp with h | ⟨op', hm, h⟩
    · exact (step_mem dec st op p h).imp_right fun h => ⟨op, List.mem_cons_self .., h⟩
    · exact .inr ⟨op', List.mem_cons_of_mem _ hm, h⟩

end Hg
