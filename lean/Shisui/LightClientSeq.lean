import Shisui.LightClient
import Shisui.Merkle
/-! C12 beyond one step (one step — `Lc.verify` with its conditions, `Lc.apply` — is `Shisui/LightClient.lean`):

  * `bootstrap` (`beacon/light_client.go:230-273`) with the Boolean switch `quirk`: the code as it is today
    compares the checkpoint with the root of the whole `LightClientHeader` container, not with the beacon block root;
  * `process` / `run`: update sequences as `Sync`/`Advance` drive them (apply only what verified), `Reach` for arbitrary
    apply sequences, and the two-thirds rule along a run;
  * the Merkle branch checks with the literal depth/index constants of the code and their soundness through `Mk.sound`;
  * domain / signing-root arithmetic used by the driver. -/
namespace Lc

structure Bootstrap where
  slot : Nat
  beaconRoot : Nat          -- hash_tree_root(header.beacon): what the trusted checkpoint is a root of
  containerRoot : Nat       -- hash_tree_root(header): the LightClientHeader container (beacon, execution, branch)
  committee : Nat
  committeeProofOk : Bool   -- isCurrentCommitteeProofValid
  isElectra : Bool          -- the API returned an *electra.LightClientBootstrap
deriving DecidableEq, Repr

inductive BootErr where
  | invalidBootstrap | headerMismatch | committeeProof
deriving DecidableEq, Repr

/-- `bootstrap()`; `quirk = true` is the code as it is: the checkpoint is compared with the container root -/
def bootstrap (quirk : Bool) (checkpoint : Nat) (b : Bootstrap) : Except BootErr Store :=
  if b.isElectra = false then .error .invalidBootstrap
  else if (if quirk then b.containerRoot else b.beaconRoot) ≠ checkpoint then .error .headerMismatch
  else if b.committeeProofOk = false then .error .committeeProof
  else .ok { finSlot := b.slot, optSlot := b.slot, cur := b.committee, next := none, prevMax := 0, curMax := 0 }

theorem bootstrap_ok (q : Bool) (cp : Nat) (b : Bootstrap) (st : Store) (h : bootstrap q cp b = .ok st) :
    (if q then b.containerRoot else b.beaconRoot) = cp ∧ b.committeeProofOk = true ∧
    st = { finSlot := b.slot, optSlot := b.slot, cur := b.committee, next := none, prevMax := 0, curMax := 0 } := by
  unfold bootstrap at h
  by_cases h1 : b.isElectra = false
  · rw [if_pos h1] at h; cases h
  by_cases h2 : (if q then b.containerRoot else b.beaconRoot) ≠ cp
  · rw [if_neg h1, if_pos h2] at h; cases h
  by_cases h3 : b.committeeProofOk = false
  · rw [if_neg h1, if_neg h2, if_pos h3] at h; cases h
  rw [if_neg h1, if_neg h2, if_neg h3] at h
  exact ⟨Decidable.not_not.mp h2, (Bool.not_eq_false _).mp h3, (Except.ok.inj h).symm⟩

/-- one round of `Sync`/`Advance`: an update is applied only after it verified -/
def process (st : Store) (u : Update) (now : Nat) : Store :=
  match verify st u now with
  | .ok _ => apply st u
  | .error _ => st

def run (st : Store) : List (Update × Nat) → Store
  | [] => st
  | p :: rest => run (process st p.1 p.2) rest

/-- everything reachable by applying updates, verified or not -/
inductive Reach (s0 : Store) : Store → Prop where
  | base : Reach s0 s0
  | app (s : Store) (u : Update) : Reach s0 s → Reach s0 (apply s u)

theorem process_reach {s0 st : Store} (u : Update) (now : Nat) (h : Reach s0 st) : Reach s0 (process st u now) := by
  unfold process
  split
  · exact .app st u h
  · exact h

theorem run_reach {s0 st : Store} (us : List (Update × Nat)) (h : Reach s0 st) : Reach s0 (run st us) := by
  induction us generalizing st with
  | nil => exact h
  | cons p rest ih => exact ih (process_reach p.1 p.2 h)

theorem run_unchanged (st : Store) (us : List (Update × Nat)) (h : ∀ p ∈ us, ¬ p.1.bits * 3 ≥ 512 * 2) :
    (run st us).finSlot = st.finSlot ∧ (run st us).cur = st.cur ∧ (run st us).next = st.next := by
  induction us generalizing st with
  | nil => exact ⟨rfl, rfl, rfl⟩
  | cons p rest ih =>
    obtain ⟨a, b, c⟩ := ih (process st p.1 p.2) fun q hq => h q (.tail _ hq)
    rw [run, a, b, c]
    unfold process
    split
    · obtain ⟨-, -, outcome⟩ := apply_eff st p.1
      exact outcome.resolve_right fun applied => h p (.head _) applied.1
    · exact ⟨rfl, rfl, rfl⟩

/-! ## Merkle branch checks with the code's literal depth / index constants -/

section Branch
variable (H : Nat → Nat → Nat)

/-- zrnt `merkle.VerifyMerkleBranch(leaf, branch, depth, index, root)`: folds the first `depth` nodes -/
def branchOk (depth index : Nat) (leaf : Nat) (branch : List Nat) (root : Nat) : Bool :=
  Mk.verify H leaf (branch.take depth) index root

/-- `IsFinalityProofValid`: depth 6, index 41 = generalized index 2^6 + 41 = 105, `finalized_checkpoint.root` (field 20
    of the 32-leaf Altair…Deneb `BeaconState`, then field 1 of the checkpoint) -/
def finalityBranchOk (finalizedHeaderRoot : Nat) (branch : List Nat) (attestedStateRoot : Nat) : Bool :=
  branchOk H 6 41 finalizedHeaderRoot branch attestedStateRoot
/-- `IsNextCommitteeProofValid`: depth 5, index 23 = generalized index 2^5 + 23 = 55, state field `next_sync_committee` -/
def nextCommitteeBranchOk (committeeRoot : Nat) (branch : List Nat) (attestedStateRoot : Nat) : Bool :=
  branchOk H 5 23 committeeRoot branch attestedStateRoot
/-- `isCurrentCommitteeProofValid`: depth 5, index 22 = generalized index 54, state field `current_sync_committee` -/
def currentCommitteeBranchOk (committeeRoot : Nat) (branch : List Nat) (stateRoot : Nat) : Bool :=
  branchOk H 5 22 committeeRoot branch stateRoot

/-- A branch check that passes pins the leaf at the position in EVERY tree that opens the state root —
    or exhibits a hash collision / a leaf chunk that is itself a hash of two chunks. No injectivity axiom. -/
theorem branch_sound {depth index leaf : Nat} {branch : List Nat} {root : Nat} (hl : depth ≤ branch.length)
    (h : branchOk H depth index leaf branch root = true) (T : Mk.Tree) (hT : Mk.root H T = root) :
    (∃ t, Mk.nodeAt T depth index = some t ∧ Mk.root H t = leaf) ∨ Mk.Collision H ∨ Mk.LeafPre H T :=
  Mk.sound_take H hl (hT ▸ eq_of_beq h)

end Branch

/-! ## domain and signing root (`ComputeCommitteeSignRoot`, `ComputeSigningRoot`) over 32-byte values as big-endian Nats -/

section Signing
variable (H : Nat → Nat → Nat)

/-- SSZ chunk of a little-endian uint64, read as a big-endian 256-bit number -/
def u64Chunk (v : Nat) : Nat :=
  (List.range 8).foldl (fun acc i => acc + ((v / 256 ^ i) % 256) * 256 ^ (31 - i)) 0

/-- chunk of a 4-byte fork version (given as big-endian number of its 4 bytes) -/
def versionChunk (fv : Nat) : Nat := fv * 256 ^ 28

/-- DOMAIN_SYNC_COMMITTEE (07000000) ++ first 28 bytes of the fork data root -/
def domain (forkVersion genesisRoot : Nat) : Nat :=
  7 * 256 ^ 31 + (H (versionChunk forkVersion) genesisRoot) / 256 ^ 4

/-- hash_tree_root(BeaconBlockHeader) -/
def headerRoot (slot proposer parent state body : Nat) : Nat :=
  H (H (H (u64Chunk slot) (u64Chunk proposer)) (H parent state)) (H (H body 0) (H 0 0))

def signingRoot (hdrRoot forkVersion genesisRoot : Nat) : Nat := H hdrRoot (domain H forkVersion genesisRoot)

/-- hash_tree_root(LightClientHeader{beacon, execution, execution_branch}) -/
def containerRootOf (beaconRoot execRoot execBranchRoot : Nat) : Nat := H (H beaconRoot execRoot) (H execBranchRoot 0)

end Signing

example : u64Chunk 1 = 256 ^ 31 := by decide
example : u64Chunk 258 = 2 * 256 ^ 31 + 256 ^ 30 := by decide

#print axioms run_unchanged
#print axioms branch_sound
end Lc
