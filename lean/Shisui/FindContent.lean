/-! Three small models under one namespace. C08: what `handleFindContent` may answer when the content is not held
    (`enrsReply`; its `truncate` is the `truncateNodes` of FINDNODES too, C11). C06: the in-range test (`inRange`). C01: the
    talk dispatch boundary (`handleTalk`), the skeleton of which `Dp.handleTalk` is an instance
    (`Props.C01.talk_dispatch_is_Fc`). -/
namespace Fc

structure N where
  id : Nat
  logd : Nat          -- log-distance to the content id
  enrLen : Nat        -- encoded record length
deriving DecidableEq, Repr

def SortedLog (l : List N) : Prop := l.Pairwise (fun a b => a.logd ≤ b.logd)

/-- `truncateNodes`: longest prefix whose records (+4 bytes offset each) fit -/
def truncate (maxSize : Nat) : List N → Nat → List N
  | [], _ => []
  | n :: rest, used => if used + n.enrLen + 4 > maxSize then [] else n :: truncate maxSize rest (used + n.enrLen + 4)

def size (l : List N) : Nat := (l.map (fun n => n.enrLen + 4)).sum

theorem truncate_prefix (maxSize : Nat) (l : List N) (used : Nat) : truncate maxSize l used <+: l := by
  induction l generalizing used with
  | nil => exact List.prefix_rfl
  | cons n r ih =>
    rw [truncate]
    split
    · exact List.nil_prefix
    · exact List.cons_prefix_cons.mpr ⟨rfl, ih _⟩

theorem size_cons (n : N) (l : List N) : size (n :: l) = n.enrLen + 4 + size l := rfl

theorem truncate_size (maxSize : Nat) (l : List N) (used : Nat) (hu : used ≤ maxSize) :
    used + size (truncate maxSize l used) ≤ maxSize := by
  induction l generalizing used with
  | nil => exact hu
  | cons n r ih =>
    rw [truncate]
    split
    · exact hu
    · rename_i h
      have := ih (used + n.enrLen + 4) (Nat.le_of_not_gt h)
      rwa [size_cons, ← Nat.add_assoc, ← Nat.add_assoc]

theorem size_truncate_le (maxSize : Nat) (l : List N) : size (truncate maxSize l 0) ≤ maxSize :=
  Nat.le_trans (Nat.le_add_left ..) (truncate_size maxSize l 0 (Nat.zero_le _))

/-- remove the first node with the asker's id (`append(closest[:i], closest[i+1:]...)`; break) -/
def removeFirst (asker : Nat) : List N → List N
  | [] => []
  | n :: rest => if n.id = asker then rest else n :: removeFirst asker rest

theorem removeFirst_sublist (asker : Nat) (l : List N) : (removeFirst asker l).Sublist l := by
  induction l with
  | nil => exact .slnil
  | cons n r ih =>
    rw [removeFirst]
    split
    · exact List.sublist_cons_self n r
    · exact ih.cons_cons n

theorem removeFirst_no_asker (asker : Nat) (l : List N) (hnd : (l.map (·.id)).Nodup) :
    ∀ n ∈ removeFirst asker l, n.id ≠ asker := by
  induction l with
  | nil => intro n hn; cases hn
  | cons x r ih =>
    rw [List.map_cons, List.nodup_cons] at hnd
    rw [removeFirst]
    split
    · rename_i hx
      intro n hn hid
      exact hnd.1 (List.mem_map.mpr ⟨n, hn, hid.trans hx.symm⟩)
    · rename_i hx
      intro n hn
      rcases List.mem_cons.mp hn with rfl | hn
      · exact hx
      · exact ih hnd.2 n hn

/-- the reply list for any log-distance-sorted ordering `sorted` of the table (the sort is unstable,
    so the order among ties is the implementation's choice); 32 = `portalFindnodesResultLimit`, the cut of
    `findNodesCloseToContent` -/
def enrsReply (sorted : List N) (asker : Nat) (maxSize : Nat) : List N :=
  truncate maxSize (removeFirst asker (sorted.take 32)) 0

/-- only table records, in non-decreasing log-distance, never the asker, and the list fits -/
theorem enrs_rule (sorted : List N) (asker maxSize : Nat) (hs : SortedLog sorted) (hnd : (sorted.map (·.id)).Nodup) :
    (enrsReply sorted asker maxSize).Sublist sorted ∧ SortedLog (enrsReply sorted asker maxSize) ∧
    (∀ n ∈ enrsReply sorted asker maxSize, n.id ≠ asker) ∧ size (enrsReply sorted asker maxSize) ≤ maxSize := by
  have htrunc := (truncate_prefix maxSize (removeFirst asker (sorted.take 32)) 0).sublist
  have htake : (sorted.take 32).Sublist sorted := List.take_sublist _ _
  have hreply := (htrunc.trans (removeFirst_sublist asker _)).trans htake
  exact ⟨hreply, hs.sublist hreply,
    fun n hn => removeFirst_no_asker asker _ (hnd.sublist (htake.map _)) n (htrunc.subset hn),
    size_truncate_le maxSize _⟩

def logdist (a b : Nat) : Nat := if a ^^^ b = 0 then 0 else Nat.log2 (a ^^^ b) + 1

/-- C06: `inRange`; `quirk` = compare the radius with the log2 distance; /repo compares the XOR distance since 639affd -/
def inRange (quirk : Bool) (node radius content : Nat) : Bool :=
  if quirk then decide (radius > logdist node content) else decide ((node ^^^ content) < radius)

theorem inRange_iff (node radius content : Nat) : inRange false node radius content = true ↔ (node ^^^ content) < radius := by
  simp [inRange]

/-- distance 7, radius 4: out of range under the XOR metric, in range under the log2 comparison -/
theorem quirk_inrange_logdist_breaks_C06 : inRange false 0 4 7 = false ∧ inRange true 0 4 7 = true := by
  decide

inductive Out where
  | reply (b : List Nat) | empty | err | panic (site : String)
deriving DecidableEq, Repr

/-- C01: `handleTalkRequest` with the handlers abstracted; `quirk` = `msg[0]` without a length check -/
def handleTalk (quirk : Bool) (ping findNodes findContent offer : List Nat → Out) : List Nat → Out
  | [] => if quirk then .panic "portalwire/portal_protocol.go:1048 msg[0]" else .empty
  | 0 :: body => ping body
  | 2 :: body => findNodes body
  | 4 :: body => findContent body
  | 6 :: body => offer body
  | _ :: _ => .empty

theorem handleTalk_unknown (quirk : Bool) (ping findNodes findContent offer : List Nat → Out) (c : Nat)
    (body : List Nat) (h0 : c ≠ 0) (h2 : c ≠ 2) (h4 : c ≠ 4) (h6 : c ≠ 6) :
    handleTalk quirk ping findNodes findContent offer (c :: body) = .empty := by
  -- the catch-all clause applies; its side conditions are the four refuted codes
  rw [handleTalk] <;> assumption

theorem talk_no_panic (ping findNodes findContent offer : List Nat → Out)
    (h : ∀ b, (∀ s, ping b ≠ .panic s) ∧ (∀ s, findNodes b ≠ .panic s) ∧ (∀ s, findContent b ≠ .panic s) ∧ (∀ s, offer b ≠ .panic s))
    (msg : List Nat) (s : String) : handleTalk false ping findNodes findContent offer msg ≠ .panic s := by
  unfold handleTalk
  split
  · simp
  · exact (h _).1 s
  · exact (h _).2.1 s
  · exact (h _).2.2.1 s
  · exact (h _).2.2.2 s
  · simp

theorem quirk_empty_talkreq_breaks_C01 (p f c o : List Nat → Out) :
    handleTalk true p f c o [] = .panic "portalwire/portal_protocol.go:1048 msg[0]" := rfl

#print axioms enrs_rule
end Fc
