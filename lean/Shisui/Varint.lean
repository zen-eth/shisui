/-! The length prefix of the content framing (C15): wabin's LEB128 for `uint32` (`leb128.EncodeUint32`, `DecodeUint32`), seven
    bits per byte from the low end, 128 the continuation bit. The decoder reads at most five bytes and takes the fifth only
    below 16, so it never yields 2^32 or more; non-minimal forms such as `[128, 0]` are accepted. Bytes are `Nat`s. -/
namespace Fr

def enc (v : Nat) : List Nat :=
  if h : v < 128 then [v] else (v % 128 + 128) :: enc (v / 128)
termination_by v
decreasing_by omega

def decAux (i s acc : Nat) : List Nat → Option (Nat × Nat)
  | [] => none
  | b :: rest =>
    if i ≥ 5 then none
    else if b < 128 then
      if i = 4 ∧ b ≥ 16 then none
      else some (acc + b * 2 ^ s, i + 1)
    else decAux (i+1) (s+7) (acc + (b % 128) * 2 ^ s) rest

def dec (l : List Nat) : Option (Nat × Nat) := decAux 0 0 0 l

theorem enc_lt {v : Nat} (h : v < 128) : enc v = [v] := by rw [enc, dif_pos h]

theorem enc_ge {v : Nat} (h : ¬ v < 128) : enc v = (v % 128 + 128) :: enc (v / 128) := by rw [enc, dif_neg h]

theorem enc_ne_nil (v : Nat) : enc v ≠ [] := by
  rw [enc]
  split <;> exact List.cons_ne_nil _ _

/-- a byte below 128 ends the varint; the fifth byte may carry four bits only -/
theorem decAux_last {i s acc b : Nat} (rest : List Nat) (hi : i ≤ 4) (hb : b < 128) (h4 : i = 4 → b < 16) :
    decAux i s acc (b :: rest) = some (acc + b * 2 ^ s, i + 1) := by
  rw [decAux, if_neg (Nat.not_le.mpr (Nat.lt_succ_of_le hi)), if_pos hb, if_neg fun h => Nat.not_le.mpr (h4 h.1) h.2]

theorem decAux_more {i s acc b : Nat} (rest : List Nat) (hi : i ≤ 4) (hb : ¬ b < 128) :
    decAux i s acc (b :: rest) = decAux (i + 1) (s + 7) (acc + b % 128 * 2 ^ s) rest := by
  rw [decAux, if_neg (Nat.not_le.mpr (Nat.lt_succ_of_le hi)), if_neg hb]

theorem shift_digit (v s : Nat) : v % 128 * 2 ^ s + v / 128 * 2 ^ (s + 7) = v * 2 ^ s := by
  rw [Nat.pow_add, Nat.mul_comm (2 ^ s), ← Nat.mul_assoc, ← Nat.add_mul, Nat.mul_comm (v / 128)]
  exact congrArg (· * 2 ^ s) (Nat.mod_add_div v 128)

/-- decoding from the `i`-th byte on: `32 - 7 * i` bits are still free -/
theorem decAux_enc (v : Nat) : ∀ (i s acc : Nat) (rest : List Nat),
    i ≤ 4 → v < 2 ^ (32 - 7 * i) →
    decAux i s acc (enc v ++ rest) = some (acc + v * 2 ^ s, i + (enc v).length) := by
  fun_induction enc v with
  | case1 v hlt =>
    -- `v < 128`: a single byte
    intro i s acc rest hi hv
    exact decAux_last rest hi hlt (fun h4 => by subst h4; exact hv)
  | case2 v hlt ih =>
    -- `128 ≤ v`: a continuation byte, then `enc (v / 128)`; `v < 2 ^ (32 - 7 * i)`, so this is not the fifth byte
    intro i s acc rest hi hv
    have hi4 : i + 1 ≤ 4 := by
      apply Nat.lt_of_le_of_ne hi
      rintro rfl
      exact hlt (Nat.lt_trans hv (by decide))
    have h7 : 7 * (i + 1) ≤ 32 := Nat.le_trans (Nat.mul_le_mul_left 7 hi4) (by decide)
    have hv' : v / 128 < 2 ^ (32 - 7 * (i + 1)) := by
      rw [Nat.div_lt_iff_lt_mul (by decide)]
      rwa [show 32 - 7 * i = 32 - 7 * (i + 1) + 7 by rw [← Nat.sub_add_comm h7, Nat.mul_succ, Nat.add_sub_add_right],
        Nat.pow_add] at hv
    rw [List.cons_append, decAux_more _ hi (Nat.not_lt.mpr (Nat.le_add_left ..)), ih _ _ _ _ hi4 hv',
      Nat.add_mod_right, Nat.mod_mod, Nat.add_assoc acc, shift_digit, List.length_cons, Nat.add_assoc i, Nat.add_comm 1]

theorem dec_enc (v : Nat) (rest : List Nat) (h : v < 2^32) :
    dec (enc v ++ rest) = some (v, (enc v).length) := by
  have := decAux_enc v 0 0 0 rest (Nat.zero_le 4) h
  rwa [Nat.zero_add, Nat.zero_add, Nat.pow_zero, Nat.mul_one] at this

/-- all bytes of a varint but the last carry the continuation bit, so a cut varint never decodes -/
theorem decAux_cut {p q : List Nat} (hq : q ≠ []) {v i s acc : Nat} (hpq : p ++ q = enc v) :
    decAux i s acc p = none := by
  induction p generalizing v i s acc with
  | nil => rfl
  | cons b bs ih =>
    by_cases hv : v < 128
    · rw [enc_lt hv, List.cons_append, List.cons.injEq] at hpq
      exact absurd (List.append_eq_nil_iff.mp hpq.2).2 hq
    · rw [enc_ge hv, List.cons_append, List.cons.injEq] at hpq
      rw [decAux, hpq.1, if_neg (Nat.not_lt.mpr (Nat.le_add_left ..)), ih hpq.2, ite_self]

theorem decAux_read {i s acc : Nat} {l : List Nat} {v n : Nat} (h : decAux i s acc l = some (v, n)) :
    i < n ∧ n ≤ i + l.length := by
  -- the leaves of `decAux`: case1 no byte left, case2 a sixth byte, case3 a fifth byte of 16 or more (all `none`);
  -- case4 a byte below 128 is taken as the last; case5 a continuation byte, the recursive call
  fun_induction decAux i s acc l
  case case4 i _ _ _ _ _ _ _ =>
    cases h
    exact ⟨Nat.lt_succ_self i, Nat.succ_le_succ (Nat.le_add_right ..)⟩
  case case5 ih =>
    have := ih h
    exact ⟨Nat.lt_of_succ_lt this.1, Nat.le_trans this.2 (Nat.le_of_eq (Nat.succ_add_eq_add_succ ..))⟩
  all_goals cases h

theorem dec_read {l : List Nat} {v n : Nat} (h : dec l = some (v, n)) : 0 < n ∧ n ≤ l.length := by
  have := decAux_read h
  rwa [Nat.zero_add] at this

theorem digit_lt {acc s b k : Nat} (ha : acc < 2 ^ s) (hb : b < k) : acc + b * 2 ^ s < k * 2 ^ s :=
  Nat.lt_of_lt_of_le (Nat.add_lt_add_right ha _) (by rw [Nat.add_comm, ← Nat.succ_mul]; exact Nat.mul_le_mul_right _ hb)

/-- the decoder never yields 2^32 or more: before byte `i` the accumulator is below `2 ^ (7 * i)`, bytes 0 to 3 add seven
    bits each and byte 4 is only accepted below 16 -/
theorem decAux_lt {i s acc : Nat} {l : List Nat} {v n : Nat} (hs : s = 7 * i) (hacc : acc < 2 ^ s)
    (h : decAux i s acc l = some (v, n)) : v < 2 ^ 32 := by
  fun_induction decAux i s acc l
  case case4 i s acc b _ hi hb h4 =>
    cases h
    rcases Nat.lt_or_eq_of_le (Nat.le_of_lt_succ (Nat.not_le.mp hi)) with h3 | rfl
    · apply Nat.lt_of_lt_of_le (digit_lt hacc hb)
      rw [show 128 = 2 ^ 7 from rfl, ← Nat.pow_add, hs, Nat.add_comm 7, ← Nat.mul_succ]
      exact Nat.pow_le_pow_right (by decide) (Nat.le_trans (Nat.mul_le_mul_left 7 h3) (by decide))
    · subst hs
      exact digit_lt hacc (Nat.not_le.mp fun h16 => h4 ⟨rfl, h16⟩)
  case case5 _ s _ b _ _ _ ih =>
    refine ih (by rw [hs, Nat.mul_succ]) ?_ h
    rw [Nat.pow_add, Nat.mul_comm (2 ^ s)]
    exact digit_lt hacc (Nat.mod_lt b (by decide : 0 < 128))
  all_goals cases h

/-- "varint overflows 32 bits is rejected": a decoded length is always below 2^32 -/
theorem dec_lt {l : List Nat} {v n : Nat} (h : dec l = some (v, n)) : v < 2 ^ 32 :=
  decAux_lt rfl (by decide) h

/-- the size of the length prefix of an item of `v` bytes, `len(leb128.EncodeUint32(v))` -/
def lebLen (v : Nat) : Nat := (enc v).length

theorem lebLen_small (v : Nat) (h : v < 128) : lebLen v = 1 := by
  rw [lebLen, enc_lt h]; rfl

theorem lebLen_step (v : Nat) (h : ¬ v < 128) : lebLen v = lebLen (v / 128) + 1 := by
  rw [lebLen, enc_ge h]; rfl

theorem lebLen_pos (v : Nat) : 0 < lebLen v := List.length_pos_iff.mpr (enc_ne_nil v)

/-- `k + 1` bytes carry `7 * (k + 1)` bits -/
theorem lebLen_le_iff {k v : Nat} : lebLen v ≤ k + 1 ↔ v < 128 ^ (k + 1) := by
  induction k generalizing v with
  | zero =>
    by_cases hv : v < 128
    · rw [lebLen_small v hv]; exact ⟨fun _ => hv, fun _ => Nat.le_refl 1⟩
    · rw [lebLen_step v hv]
      exact ⟨fun h => absurd (Nat.le_of_succ_le_succ h) (Nat.not_le.mpr (lebLen_pos _)), fun h => absurd h hv⟩
  | succ k ih =>
    by_cases hv : v < 128
    · rw [lebLen_small v hv]
      exact ⟨fun _ => Nat.lt_of_lt_of_le hv (Nat.le_self_pow (Nat.succ_ne_zero _) 128), fun _ => Nat.succ_pos _⟩
    · rw [lebLen_step v hv, Nat.succ_le_succ_iff, Nat.pow_succ, ← Nat.div_lt_iff_lt_mul (by decide)]
      exact ih

theorem lebLen_five (v : Nat) (h1 : 2 ^ 28 ≤ v) (h2 : v < 2 ^ 35) : lebLen v = 5 :=
  Nat.le_antisymm (lebLen_le_iff.mpr h2) (Nat.not_le.mp fun h => Nat.not_lt.mpr h1 (lebLen_le_iff.mp h))

#print axioms lebLen_five
end Fr
