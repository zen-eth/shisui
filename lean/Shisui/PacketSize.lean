/-! C08/C11: the size of the discv5 TALKRESP datagram as a function of the response length (RLP length arithmetic). -/
namespace Pk

def lenOfLen (n : Nat) : Nat := if n < 256 then 1 else if n < 65536 then 2 else if n < 16777216 then 3 else 4

/-- RLP length of a byte string of `n` bytes (`single` = it is one byte below 0x80) -/
def rlpStr (n : Nat) (single : Bool) : Nat :=
  if n = 1 ∧ single then 1 else if n ≤ 55 then 1 + n else 1 + lenOfLen n + n

def rlpList (payload : Nat) : Nat := if payload ≤ 55 then 1 + payload else 1 + lenOfLen payload + payload

/-- whole datagram: masking IV, static header, authdata (src id), message type, RLP [req-id, resp], GCM tag -/
def talkRespSize (reqId resp : Nat) (s1 s2 : Bool) : Nat :=
  16 + 23 + 32 + (1 + rlpList (rlpStr reqId s1 + rlpStr resp s2)) + 16

-- summand by summand: masking IV, header (the 23 + 32 of `talkRespSize`), TALKRESP message type, RLP list header with two
-- length bytes, request id (up to 8 bytes and its RLP byte), RLP string header of the response with two length bytes, GCM
-- tag (the Go comment says HMAC)
def talkRespOverhead := 16 + 55 + 1 + 3 + 9 + 3 + 16     -- as in portal_protocol.go
def maxPacketSize := 1280

theorem rlpStr_le_rlpList (n : Nat) (s : Bool) : rlpStr n s ≤ rlpList n := by
  unfold rlpStr rlpList
  split
  · split
    · exact Nat.le_add_right 1 n
    · exact Nat.le_trans (Nat.le_add_right 1 _) (Nat.le_add_right _ n)
  · exact Nat.le_refl _

theorem rlpList_short {p : Nat} (h : p ≤ 55) : rlpList p = 1 + p := if_pos h

/-- up to 65535 bytes the length of the payload is written in at most two bytes -/
theorem rlpList_le {p : Nat} (h : p < 65536) : rlpList p ≤ 3 + p := by
  unfold rlpList lenOfLen
  split
  · exact Nat.add_le_add_right (by decide) p
  · split
    · exact Nat.add_le_add_right (by decide) p
    · -- `split` has put `h` to use: `lenOfLen p` is 2 here
      exact Nat.le_refl _

/-- the constant in the code bounds the real overhead for every request id ≤ 8 bytes and every
    response up to 65 000 bytes (beyond ≈ 65 524 the list header grows by one byte and the constant
    would be one short — irrelevant here, replies are capped far below): 9 bytes for the request id, a three-byte header
    for the response and a three-byte header for the list of the two -/
theorem overhead_bound (reqId resp : Nat) (s1 s2 : Bool) (hr : reqId ≤ 8) (hn : resp ≤ 65000) :
    talkRespSize reqId resp s1 s2 ≤ resp + talkRespOverhead := by
  have hid : rlpStr reqId s1 ≤ 1 + reqId := rlpList_short (Nat.le_trans hr (by decide)) ▸ rlpStr_le_rlpList reqId s1
  have hresp : rlpStr resp s2 ≤ 3 + resp := Nat.le_trans (rlpStr_le_rlpList resp s2) (rlpList_le (by omega))
  have hlist := rlpList_le (p := rlpStr reqId s1 + rlpStr resp s2) (by omega)
  unfold talkRespSize talkRespOverhead
  omega

/-- a response of at most `maxPacketSize - talkRespOverhead` (= 1177) bytes fits one datagram -/
theorem fits (reqId resp : Nat) (s1 s2 : Bool) (hr : reqId ≤ 8) (hn : resp ≤ maxPacketSize - talkRespOverhead) :
    talkRespSize reqId resp s1 s2 ≤ maxPacketSize :=
  Nat.le_trans (overhead_bound reqId resp s1 s2 hr (Nat.le_trans hn (by decide))) (Nat.add_le_of_le_sub (by decide) hn)

/-- the bound is tight: an 8-byte request id and a 1177-byte response make exactly 1280 bytes -/
theorem tight : talkRespSize 8 1177 false false = 1280 := by decide

end Pk
