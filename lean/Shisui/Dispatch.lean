import Shisui.Ssz.Dyn
import Shisui.Framing
import Shisui.FindContent
/-! # C01 model, part 1: outcome classes of the entry points a peer can reach

Go slices are `List Nat`; every index / slice / dereference that shisui's own code performs on peer-controlled data
without a dominating guard is an explicit `Out.panic site` outcome, switched by one Boolean *quirk* per site
(`Quirks`; all `false` = the ideal model the property theorems are about; `Quirks.asIs` = the tree as found).
Decoders of dependencies that shisui merely calls (rlp, ztyp/zrnt containers, ping-extension payloads) are not
modelled byte for byte: where they decide between `ok` and `err` the model answers `handled` ("a returned value or
a returned error") and the comparison is by class.

Sites are named `<package>.<function>:<kind>` exactly as the harness derives them from the Go stack trace.

Each lemma follows the definition it speaks of. In the ideal model (`{}`) a leaf of a function is a constructor or a
`guard1 false ..`, and `rfl` decides whether it is a panic; a no-panic lemma names only the leaves that need an argument
(they call another function, or are a `panic` which the guards exclude). -/
namespace Dp

/-- outcome class of one handling call -/
inductive Out where
  | reply (code : Nat) (sel : Option Nat)   -- non-empty TALKRESP: message code, content selector
  | empty                                   -- empty TALKRESP
  | ok                                      -- a value was returned, no error
  | found (len : Nat)                       -- ContentStorage.Get: content of that length
  | notFound                                -- ContentStorage.Get: storage.ErrContentNotFound
  | nilNil                                  -- ContentStorage.Get: (nil, nil)
  | err                                     -- a returned error
  | handled                                 -- `ok` or `err`, decided by a dependency's decoder
  | panic (site : String)
deriving DecidableEq, Repr

def Out.isPanic : Out → Bool
  | .panic _ => true
  | _ => false

/-- one switch per unguarded access found in the tree (DESIGN §6 rows 1–8) -/
structure Quirks where
  talkEmpty : Bool := false       -- portalwire handleTalkRequest: msg[0]
  contentSel : Bool := false      -- portalwire processContent: resp[1]
  histKey : Bool := false         -- history/storage.go isEphemeralOfferType: contentKey[0] (Get and Put)
  histVal : Bool := false         -- history ValidateContent: contentKey[0]
  stateKey : Bool := false        -- state Storage.Put: contentKey[0]
  stateVal : Bool := false        -- state ValidateContent: contentKey[0]
  beaconGetKey : Bool := false    -- beacon Storage.Get: contentKey[0]
  beaconPutKey : Bool := false    -- beacon Storage.Put: contentKey[0]
  beaconVal : Bool := false       -- beacon ValidateContent: contentKey[0]
  beaconSumGet : Bool := false    -- beacon Storage.Get: reverseCompare(data[:8], contentKey[1:])
  beaconSumPut : Bool := false    -- beacon Storage.Put: data[:8]; reverseCompare(contentKey[1:], epochBytes)
  stateProof : Bool := false      -- state putAccountTrieNode / putContractStorageTrieNode: Proof[length-1]
  rootsIndex : Bool := false      -- validation validateMergeToCapellaHeader: HistoricalRoots[slot/8192]
  withdrawalsNil : Bool := false  -- history validateBlockBody: header.WithdrawalsHash.Bytes()
  trieEmptyKey : Bool := false    -- state/trie TraverseTrieNode: v.Key[length-1]
  triePath : Bool := false        -- state/trie TraverseTrieNode: path[index]
deriving DecidableEq, Repr

/-- the tree as found -/
def Quirks.asIs : Quirks :=
  { talkEmpty := true, contentSel := true, histKey := true, histVal := true, stateKey := true, stateVal := true,
    beaconGetKey := true, beaconPutKey := true, beaconVal := true, beaconSumGet := true, beaconSumPut := true,
    stateProof := true, rootsIndex := true, withdrawalsNil := true, trieEmptyKey := true, triePath := true }

def guard1 (quirk : Bool) (site : String) (fixed : Out) : Out := if quirk then .panic site else fixed

/-! ## SSZ request / response containers (portalwire/types_encoding.go, fastssz helpers) -/

/-- containers whose only variable field is last: a fixed part of `fixed` bytes ending in the 4-byte offset, which
    must equal `fixed` (`size < fixed → ErrSize`, `o > size → ErrOffset`, `o != fixed → ErrInvalidVariableOffset`) -/
def tailAfterOffset (fixed : Nat) (buf : List Nat) : Option (List Nat) :=
  if buf.length < fixed then none else
  match Sz.rd32 (buf.drop (fixed - 4)) with
  | none => none
  | some (o, _) => if o = fixed then some (buf.drop fixed) else none

def le16 (b : List Nat) : Nat := b.getD 0 0 + 256 * b.getD 1 0

/-- little-endian value of the first 8 bytes -/
def le64 (b : List Nat) : Nat := (b.take 8).foldr (fun x acc => x + 256 * acc) 0

/-- `Ping.UnmarshalSSZ` / `Pong.UnmarshalSSZ`: (payload type, payload) -/
def decodePing (buf : List Nat) : Option (Nat × List Nat) :=
  match tailAfterOffset 14 buf with
  | none => none
  | some payload => if payload.length > 1100 then none else some (le16 (buf.drop 8), payload)

/-- `FindNodes.UnmarshalSSZ`: number of distances (`DivideInt2(len, 2, 256)`) -/
def decodeFindNodes (buf : List Nat) : Option Nat :=
  match tailAfterOffset 4 buf with
  | none => none
  | some t => if t.length % 2 ≠ 0 then none else if t.length / 2 > 256 then none else some (t.length / 2)

/-- `FindContent.UnmarshalSSZ`: the content key -/
def decodeFindContent (buf : List Nat) : Option (List Nat) :=
  match tailAfterOffset 4 buf with
  | none => none
  | some key => if key.length > 2048 then none else some key

/-- list of byte strings: `DecodeDynamicLength(buf, maxN)` + `UnmarshalDynamic` with the per-item limit -/
def decodeByteLists (maxN maxLen : Nat) (buf : List Nat) : Option (List (List Nat)) :=
  match Sz.decodeDyn maxN buf with
  | none => none
  | some items => if items.all (fun x => x.length ≤ maxLen) then some items else none

/-- `Offer.UnmarshalSSZ`: the content keys -/
def decodeOffer (buf : List Nat) : Option (List (List Nat)) :=
  match tailAfterOffset 4 buf with
  | none => none
  | some t => decodeByteLists 64 2048 t

/-- `Nodes.UnmarshalSSZ`: total (1 byte), offset 5, records -/
def decodeNodes (buf : List Nat) : Option (List (List Nat)) :=
  match tailAfterOffset 5 buf with
  | none => none
  | some t => decodeByteLists 32 2048 t

/-- `Enrs.UnmarshalSSZ` (hand-written: a bare list) -/
def decodeEnrs (buf : List Nat) : Option (List (List Nat)) := decodeByteLists 32 2048 buf

/-- `bits.Len8` -/
def bitLen (b : Nat) : Nat := if b = 0 then 0 else Nat.log2 b + 1

/-- `ssz.ValidateBitlist(buf, limit)`; result: number of bits (`Bitlist.Len`) -/
def validateBitlist (limit : Nat) (buf : List Nat) : Option Nat :=
  match buf.getLast? with
  | none => none
  | some last =>
    if buf.length > limit / 8 + 1 then none
    else if last = 0 then none
    else if 8 * (buf.length - 1) + bitLen last - 1 > limit then none
    else some (8 * (buf.length - 1) + bitLen last - 1)

/-- some bit below the length bit is set (`len(BitIndices()) > 0`) -/
def bitlistAny (buf : List Nat) : Bool :=
  match buf.getLast? with
  | none => false
  | some last => buf.dropLast.any (· ≠ 0) || decide (last ≠ 2 ^ (bitLen last - 1))

/-- ACCEPT as parsed by `parseOfferResp`: (number of verdicts, some key accepted) -/
def decodeAccept (version : Nat) (buf : List Nat) : Option (Nat × Bool) :=
  match tailAfterOffset 6 buf with
  | none => none
  | some t =>
    if version = 0 then
      match validateBitlist 64 t with
      | none => none
      | some n => some (n, bitlistAny t)
    else if t.length > 64 then none else some (t.length, t.any (· = 0))

/-! ## What a node holds, as far as the adapters' `Get` can tell -/

structure Env where
  held : List (List Nat × Nat) := []      -- (content key, length) of items stored under the key's content id
  periods : List (Nat × Nat) := []        -- beacon: (period, serialized length) of stored light-client updates
  fin : Option (Nat × Nat) := none        -- beacon: (finalized slot, length) of the cached finality update
  opt : Option (Nat × Nat) := none        -- beacon: (signature slot, length) of the cached optimistic update
  sum : Option (List Nat × Nat) := none   -- beacon: (first ≤ 8 bytes, length) of the stored summaries value
deriving Repr

/-- every stored summaries value carries its 8-byte epoch (what the ideal `Put` guarantees: `Props.C01.summaries_invariant`) -/
def SumWf (e : Env) : Prop := ∀ pre n, e.sum = some (pre, n) → 8 ≤ n ∧ pre.length = 8

theorem SumWf_empty : SumWf {} := fun _ _ h => nomatch h

inductive Net where
  | history | beacon | state
deriving DecidableEq, Repr

def lookup (e : Env) (key : List Nat) : Out :=
  match e.held.find? (fun p => p.1 == key) with
  | some p => .found p.2
  | none => .notFound

theorem lookup_no_panic (e : Env) (key : List Nat) : (lookup e key).isPanic = false := by
  unfold lookup; split <;> rfl

/-- history/storage.go `Get`: `isEphemeralOfferType(contentKey)` routes type 0x05 to the ephemeral store, whose `Get`
    fails on a malformed key and on an unknown block hash alike (nothing a validated offer stores can be found there) -/
def historyGet (q : Quirks) (e : Env) (key : List Nat) : Out :=
  match key with
  | [] => guard1 q.histKey "history.isEphemeralOfferType:idx" (lookup e [])
  | 5 :: _ => .err
  | _ :: _ => lookup e key

theorem historyGet_no_panic (e : Env) (key : List Nat) : (historyGet {} e key).isPanic = false := by
  fun_cases historyGet {} e key
  case case1 => exact lookup_no_panic e []   -- the empty key, guarded: a look-up
  case case3 => exact lookup_no_panic e _    -- a key of no ephemeral type: a look-up
  all_goals rfl

/-- history/storage.go `Put` -/
def historyPut (q : Quirks) (key : List Nat) : Out :=
  match key with
  | [] => guard1 q.histKey "history.isEphemeralOfferType:idx" .ok
  | _ :: _ => .ok

/-- state/storage.go `Get`: a plain look-up by content id -/
def stateGet (e : Env) (key : List Nat) : Out := lookup e key

/-! ### beacon/storage.go -/

inductive Cmp where
  | gt | lt | eq | oob
deriving DecidableEq, Repr

/-- `reverseCompare(a, b)`: `for i := len(a)-1; i >= 0; i-- { if a[i] > b[i] … }` — `b[i]` is not guarded -/
def reverseCompareAux (a b : List Nat) : Nat → Cmp
  | 0 => .eq
  | i + 1 =>
    match b[i]? with
    | none => .oob
    | some bi =>
      if a.getD i 0 > bi then .gt else if a.getD i 0 < bi then .lt else reverseCompareAux a b i

def reverseCompare (a b : List Nat) : Cmp := reverseCompareAux a b a.length

theorem reverseCompareAux_inb (a b : List Nat) (i : Nat) (h : i ≤ b.length) : reverseCompareAux a b i ≠ .oob := by
  fun_induction reverseCompareAux a b i with
  | case2 i hn =>   -- `b[i]` out of range: excluded, `h : i + 1 ≤ b.length` is `i < b.length`
    rw [List.getElem?_eq_getElem h] at hn
    cases hn
  | case5 i _ _ _ _ ih => exact ih (Nat.le_of_succ_le h)   -- equal bytes: on with the next lower index
  | _ => exact Cmp.noConfusion

theorem reverseCompare_inb (a b : List Nat) (h : a.length ≤ b.length) : reverseCompare a b ≠ .oob :=
  reverseCompareAux_inb a b a.length h

/-- the update-range loop of `Get`: `for start < StartPeriod+Count { data := db.Get(start) … start++ }`; `acc` is the
    serialized size so far (4-byte offset + update) -/
def updatesWalk (periods : List (Nat × Nat)) (endp : Nat) (p acc : Nat) : Out :=
  if p < endp then
    match periods.find? (fun x => x.1 == p) with
    | none => .notFound
    | some x => updatesWalk periods endp (p + 1) (acc + 4 + x.2)
  else if acc = 0 then .nilNil else .found acc      -- no iteration: `buf.Bytes()` of an empty buffer is nil
termination_by endp - p
decreasing_by omega

theorem updatesWalk_no_panic (periods : List (Nat × Nat)) (endp p acc : Nat) :
    (updatesWalk periods endp p acc).isPanic = false := by
  fun_induction updatesWalk periods endp p acc
  case case2 ih => exact ih   -- the period is stored: on with the loop
  all_goals rfl

/-- number of iterations of that loop -/
def updatesSteps (periods : List (Nat × Nat)) (endp : Nat) (p : Nat) : Nat :=
  if p < endp then
    match periods.find? (fun x => x.1 == p) with
    | none => 1
    | some _ => 1 + updatesSteps periods endp (p + 1)
  else 0
termination_by endp - p
decreasing_by omega

theorem length_filter_lt_of_imp {α : Type} {p q : α → Bool} {l : List α} (hpq : ∀ x, p x → q x) {a : α}
    (ha : a ∈ l) (hq : q a) (hp : ¬p a) : (l.filter p).length < (l.filter q).length := by
  have : l.filter p = (l.filter q).filter p := by
    rw [List.filter_filter]
    exact List.filter_congr fun x _ => by cases h : p x <;> simp [hpq x, h]
  rw [this]
  exact List.length_filter_lt_length_iff_exists.mpr ⟨a, List.mem_filter.mpr ⟨ha, hq⟩, hp⟩

/-- each successful look-up uses up a stored period: those from `p + 1` on are fewer than those from `p` on -/
theorem updatesSteps_le_filter (periods : List (Nat × Nat)) (endp p : Nat) :
    updatesSteps periods endp p ≤ (periods.filter (fun x => decide (p ≤ x.1))).length + 1 := by
  fun_induction updatesSteps periods endp p with
  | case1 p hlt hnone => exact Nat.le_add_left 1 _   -- the period is not stored: one look-up
  | case2 p hlt x hsome ih =>                        -- it is stored: one look-up more than from `p + 1`
    have hx : x.1 = p := by simpa using List.find?_some hsome
    have hmono (y : Nat × Nat) (hy : decide (p + 1 ≤ y.1) = true) : decide (p ≤ y.1) = true := by
      simp only [decide_eq_true_eq] at hy ⊢
      exact Nat.le_of_succ_le hy
    have := length_filter_lt_of_imp hmono (List.mem_of_find?_eq_some hsome) (by simp [hx]) (by simp [hx])
    rw [Nat.add_comm]
    exact Nat.succ_le_succ (Nat.le_trans ih this)
  | case3 p hge => exact Nat.zero_le _               -- past the end: none

def beaconGet (q : Quirks) (e : Env) (key : List Nat) : Out :=
  match key with
  | [] => guard1 q.beaconGetKey "beacon.Storage.Get:idx" .notFound
  | 0x10 :: _ => lookup e key
  | 0x11 :: body =>
    if body.length ≠ 16 then .err
    else updatesWalk e.periods ((le64 body + le64 (body.drop 8)) % 2 ^ 64) (le64 body) 0
  | 0x12 :: body =>
    if body.length ≠ 8 then .err else
    match e.fin with
    | some (slot, n) => if slot ≥ le64 body then .found n else .notFound
    | none => .notFound
  | 0x13 :: body =>
    if body.length ≠ 8 then .err else
    match e.opt with
    | some (slot, n) => if slot ≥ le64 body then .found n else .notFound
    | none => .notFound
  | 0x14 :: body =>
    match e.sum with
    | none => .notFound
    | some (pre, n) =>
      if !q.beaconSumGet && body.length < 8 then .notFound          -- the guard the fix adds
      else if n < 8 then .panic "beacon.Storage.Get:slice"          -- data[:8]
      else match reverseCompare pre body with
        | .oob => .panic "beacon.reverseCompare:idx"
        | .lt => .notFound
        | _ => .found (n - 8)
  | _ :: _ => .nilNil

theorem beaconGet_no_panic (e : Env) (hw : SumWf e) (key : List Nat) : (beaconGet {} e key).isPanic = false := by
  fun_cases beaconGet {} e key
  case case2 => exact lookup_no_panic ..        -- key 0x10: a look-up
  case case4 => exact updatesWalk_no_panic ..   -- key 0x11 of the right length: the update-range loop
  case case15 pre n hs _ hn => exact absurd (hw pre n hs).1 (Nat.not_le_of_lt hn)   -- `data[:8]`: the stored value has 8 bytes
  case case16 body pre n hs hb _ ho =>   -- the guard leaves keys of at least the 8 bytes `reverseCompare` reads
    have hb : 8 ≤ body.length := by simpa using hb
    exact absurd ho (reverseCompare_inb pre body ((hw pre n hs).2 ▸ hb))
  all_goals rfl

/-- the summaries branch of `Put`: outcome and the value stored afterwards -/
def sumPut (q : Quirks) (e : Env) (body content : List Nat) : Out × Option (List Nat × Nat) :=
  if !q.beaconSumPut && body.length ≠ 8 then (.err, e.sum)            -- the guard the fix adds
  else
    match e.sum with
    | none => (.ok, some ((body ++ content).take 8, body.length + content.length))
    | some (pre, n) =>
      if n < 8 then (.panic "beacon.Storage.Put:slice", e.sum)        -- data[:8]
      else match reverseCompare body pre with
        | .oob => (.panic "beacon.reverseCompare:idx", e.sum)
        | .gt => (.ok, some ((body ++ content).take 8, body.length + content.length))
        | _ => (.ok, e.sum)

theorem sumPut_ideal (e : Env) (hw : SumWf e) (body content : List Nat) :
    (sumPut {} e body content).1.isPanic = false ∧
    ((sumPut {} e body content).2 = e.sum ∨
      body.length = 8 ∧ (sumPut {} e body content).2 = some ((body ++ content).take 8, body.length + content.length)) := by
  fun_cases sumPut {} e body content
  case case1 => exact ⟨rfl, .inl rfl⟩   -- the guard refuses the key
  case case2 hguard _ => exact ⟨rfl, .inr ⟨by simpa using hguard, rfl⟩⟩   -- nothing stored yet
  case case3 _ pre n hs hn => exact absurd (hw pre n hs).1 (Nat.not_le_of_lt hn)   -- `data[:8]`: the stored value has 8 bytes
  case case4 hguard pre n hs _ hoob =>   -- past the guard the key has 8 bytes, as many as the stored epoch that `reverseCompare` indexes
    have hb : body.length = 8 := by simpa using hguard
    exact absurd hoob (reverseCompare_inb body pre (Nat.le_of_eq (hb.trans (hw pre n hs).2.symm)))
  case case5 hguard _ _ _ _ _ => exact ⟨rfl, .inr ⟨by simpa using hguard, rfl⟩⟩   -- the new epoch is greater than the stored one
  case case6 => exact ⟨rfl, .inl rfl⟩   -- it is not greater

/-- beacon/storage.go `Put`; `.handled` = the content goes through zrnt's decoders, which decide between value and error -/
def beaconPut (q : Quirks) (e : Env) (key content : List Nat) : Out :=
  match key with
  | [] => guard1 q.beaconPutKey "beacon.Storage.Put:idx" .err
  | 0x10 :: _ => .ok
  | 0x11 :: body => if body.length ≠ 16 then .err else .handled
  | 0x12 :: _ => .handled
  | 0x13 :: _ => .handled
  | 0x14 :: body => (sumPut q e body content).1
  | _ :: _ => .ok

def getOut (q : Quirks) (net : Net) (e : Env) (key : List Nat) : Out :=
  match net with
  | .history => historyGet q e key
  | .beacon => beaconGet q e key
  | .state => stateGet e key

theorem getOut_no_panic (net : Net) (e : Env) (hw : SumWf e) (key : List Nat) : (getOut {} net e key).isPanic = false := by
  cases net with
  | history => exact historyGet_no_panic e key
  | beacon => exact beaconGet_no_panic e hw key
  | state => exact lookup_no_panic e key

/-! ## `handleTalkRequest` -/

/-- maxPacketSize − talkRespOverhead − (message code + selector) -/
def inlineMax : Nat := 1280 - 103 - 2

/-- `handleFindContent`: an adapter error becomes an empty reply; not found → ENRs; found → inline or connection id -/
def findContentOut (q : Quirks) (net : Net) (e : Env) (key : List Nat) : Out :=
  match getOut q net e key with
  | .panic s => .panic s
  | .notFound => .reply 5 (some 2)
  | .found n => if n ≤ inlineMax then .reply 5 (some 1) else .reply 5 (some 0)
  | .nilNil => .reply 5 (some 1)
  | _ => .empty

theorem findContentOut_class (net : Net) (e : Env) (hw : SumWf e) (key : List Nat) :
    findContentOut {} net e key = .empty ∨ ∃ s, findContentOut {} net e key = .reply 5 (some s) := by
  have h := getOut_no_panic net e hw key
  fun_cases findContentOut {} net e key
  case case1 s hs => rw [hs] at h; cases h   -- the adapter's panic handed on: it does not panic
  case case6 => exact .inl rfl               -- any other outcome of the adapter: the empty reply
  all_goals exact .inr ⟨_, rfl⟩

/-- first panic among the adapter look-ups `filterContentKeys` performs, in key order (errors only mean "not stored") -/
def firstPanic : List Out → Option String
  | [] => none
  | .panic s :: _ => some s
  | _ :: rest => firstPanic rest

theorem firstPanic_none (l : List Out) (h : ∀ o ∈ l, o.isPanic = false) : firstPanic l = none := by
  fun_induction firstPanic l with
  | case1 => rfl
  | case2 s rest => cases h _ (List.mem_cons_self ..)   -- a panic at the head: `h` excludes it
  | case3 o rest _ ih => exact ih fun x hx => h x (List.mem_cons_of_mem _ hx)   -- no panic at the head: the rest

/-- `handleOffer`; `ver = none`: no common protocol version with the sender (the error is returned) -/
def offerOut (q : Quirks) (net : Net) (e : Env) (ver : Option Nat) (keys : List (List Nat)) : Out :=
  match ver with
  | none => .empty
  | some _ =>
    match firstPanic (keys.map (getOut q net e)) with
    | some s => .panic s
    | none => .reply 7 none

theorem offerOut_class (net : Net) (e : Env) (hw : SumWf e) (ver : Option Nat) (keys : List (List Nat)) :
    offerOut {} net e ver keys = .empty ∨ offerOut {} net e ver keys = .reply 7 none := by
  fun_cases offerOut {} net e ver keys
  case case1 => exact .inl rfl   -- no common version
  case case2 s hs =>             -- a look-up's panic handed on: none of them panics
    rw [firstPanic_none] at hs
    · cases hs
    · intro o ho
      obtain ⟨k, _, rfl⟩ := List.mem_map.mp ho
      exact getOut_no_panic net e hw k
  case case3 => exact .inr rfl   -- ACCEPT

def pingOut (body : List Nat) : Out :=
  match decodePing body with
  | none => .empty
  | some _ => .reply 1 none

def findNodesOut (body : List Nat) : Out :=
  match decodeFindNodes body with
  | none => .empty
  | some _ => .reply 3 none

def findContentMsg (q : Quirks) (net : Net) (e : Env) (body : List Nat) : Out :=
  match decodeFindContent body with
  | none => .empty
  | some key => findContentOut q net e key

def offerMsg (q : Quirks) (net : Net) (e : Env) (ver : Option Nat) (body : List Nat) : Out :=
  match decodeOffer body with
  | none => .empty
  | some keys => offerOut q net e ver keys

def handleTalk (q : Quirks) (net : Net) (e : Env) (ver : Option Nat) : List Nat → Out
  | [] => guard1 q.talkEmpty "portalwire.PortalProtocol.handleTalkRequest:idx" .empty
  | 0 :: body => pingOut body
  | 2 :: body => findNodesOut body
  | 4 :: body => findContentMsg q net e body
  | 6 :: body => offerMsg q net e ver body
  | _ :: _ => .empty

theorem handleTalk_unknown (q : Quirks) (net : Net) (e : Env) (ver : Option Nat) (c : Nat) (body : List Nat)
    (h0 : c ≠ 0) (h2 : c ≠ 2) (h4 : c ≠ 4) (h6 : c ≠ 6) : handleTalk q net e ver (c :: body) = .empty := by
  -- the catch-all clause applies; its side conditions are the four refuted codes
  rw [handleTalk] <;> assumption

/-- an outcome in the vocabulary of `Fc.handleTalk` (FindContent.lean), for `Props.C01.talk_dispatch_is_Fc` -/
def toFc : Out → Fc.Out
  | .reply c (some s) => .reply [c, s]
  | .reply c none => .reply [c]
  | .panic s => .panic s
  | .empty => .empty
  | _ => .err

/-! ## The four response processors -/

def processPong (resp : List Nat) : Out :=
  match resp with
  | [] => .err
  | code :: body =>
    if code ≠ 1 then .err else
    match decodePing body with
    | none => .err
    | some _ => .handled       -- ping-extension payload decoders decide

def processNodes (resp : List Nat) : Out :=
  match resp with
  | [] => .err
  | code :: body =>
    if code ≠ 3 then .err else
    match decodeNodes body with
    | none => .err
    | some _ => .ok            -- undecodable / unverifiable records are skipped, never an error

/-- `processContent`. Nobody accepts the announced uTP connection (the harness never serves one): with selector 0 the dial
    fails and the call ends in an error -/
def processContent (q : Quirks) (resp : List Nat) : Out :=
  match resp with
  | [] => .err
  | [code] => if code ≠ 5 then .err else guard1 q.contentSel "portalwire.PortalProtocol.processContent:idx" .err
  | code :: sel :: body =>
    if code ≠ 5 then .err
    else if sel = 1 then (if body.length > 2048 then .err else .ok)
    else if sel = 0 then .err                      -- size ≠ 2: ErrSize; size 2: the dial fails
    else if sel = 2 then (match decodeEnrs body with | none => .err | some _ => .ok)
    else .err

/-- `processOffer` for a request of `nkeys` content keys, `version` as negotiated with the target -/
def processOffer (version nkeys : Nat) (resp : List Nat) : Out :=
  match resp with
  | [] => .err
  | code :: body =>
    if code ≠ 7 then .err else
    match decodeAccept version body with
    | none => .err
    | some (n, _) => if n ≠ nkeys then .err else .ok

/-- `handleOfferedContents`: the stream must split into exactly as many items as keys were accepted -/
def offeredContents (nkeys : Nat) (payload : List Nat) : Out :=
  match Fr.decContents payload with
  | none => .err
  | some items => if items.length ≠ nkeys then .err else .ok

/-- the uTP TALKREQ handler: an enqueue on the socket's bounded channel; `none` = the send blocks -/
def utpTalk (queued cap : Nat) : Option Out := if queued < cap then some .empty else none

end Dp
