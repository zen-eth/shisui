/-! Bytewise (pebble / bytes.Compare) order on equal-length keys = order of the big-endian values
    (`Props.C06.key_order_is_big_endian`). -/
namespace Be

def beVal : List Nat → Nat
  | [] => 0
  | x :: xs => x * 256 ^ xs.length + beVal xs

def Bytes (l : List Nat) : Prop := ∀ x ∈ l, x < 256

/-- `bytes.Compare(a,b) < 0` for equal lengths -/
def lexLt : List Nat → List Nat → Bool
  | x :: xs, y :: ys => x < y || (x == y && lexLt xs ys)
  | _, _ => false

theorem Bytes.tail {x : Nat} {xs : List Nat} (h : Bytes (x :: xs)) : Bytes xs :=
  fun y hy => h y (List.mem_cons_of_mem _ hy)

theorem mul_add_lt {P x y r : Nat} (hr : r < P) (h : x < y) (r' : Nat) : x * P + r < y * P + r' :=
  calc x * P + r < (x + 1) * P := by rw [Nat.succ_mul]; exact Nat.add_lt_add_left hr _
    _ ≤ y * P := Nat.mul_le_mul_right P h
    _ ≤ y * P + r' := Nat.le_add_right ..

theorem mul_add_lt_iff {P x y r r' : Nat} (hr : r < P) (hr' : r' < P) :
    x * P + r < y * P + r' ↔ x < y ∨ (x = y ∧ r < r') := by
  rcases Nat.lt_trichotomy x y with h | rfl | h
  · exact iff_of_true (mul_add_lt hr h r') (.inl h)
  · simp
  · exact iff_of_false (Nat.lt_asymm (mul_add_lt hr' h r)) fun h' => h'.elim (Nat.lt_asymm h) fun e => Nat.ne_of_gt h e.1

theorem beVal_lt (l : List Nat) (h : Bytes l) : beVal l < 256 ^ l.length := by
  induction l with
  | nil => exact Nat.one_pos
  | cons x xs ih =>
    rw [List.length_cons, Nat.pow_succ, Nat.mul_comm]
    exact mul_add_lt (ih h.tail) (h x (List.mem_cons_self ..)) 0

end Be
