import Shisui.Permits
/-! C16: the exit table of one offer, read off `offer` / `processOffer` / the sending goroutine (outbound) and off the
    receiving goroutine of `handleOffer` (inbound), as the list of `Release()` calls each path makes, and the pool steps
    (`Shisui.Permits`) such a path amounts to. -/
namespace Pm

/-- how an outbound offer that holds a slot can end -/
inductive Out where
  | marshalErr | talkErr                               -- `offer`: before `processOffer` is entered
  | emptyResp | notAccept | parseErr | lenMismatch | declined   -- `processOffer`: before the transfer starts
  | shutdown | dialFail | writeFail | success          -- the sending goroutine
deriving DecidableEq, Repr

/-- how an inbound transfer that holds a slot can end -/
inductive In where
  | shutdown | acceptFail                              -- nothing was read
  | readDone (handledOk : Bool)                        -- the stream was read (or the read failed): explicit release, then the loop leaves
deriving DecidableEq, Repr

inductive Call where
  | explicit | deferred
deriving DecidableEq, Repr

/-- the `Release()` calls on each outbound path, in order -/
def outCalls : Out → List Call
  | .marshalErr | .talkErr => [.explicit]
  | .emptyResp | .notAccept | .parseErr | .lenMismatch | .declined => [.deferred]   -- `notStartedUtp` still true
  | .shutdown | .dialFail | .writeFail | .success => [.deferred]                     -- the goroutine's own defer

/-- the `Release()` calls on each inbound path, in order -/
def inCalls : In → List Call
  | .shutdown | .acceptFail => [.deferred]
  | .readDone _ => [.explicit, .deferred]

/-- the pool steps of offer `i` going through a path that makes `calls` -/
def stepsOfCalls (i : Nat) : List Call → List Step
  | [] => [.exit i false]
  | _ :: rest => .exit i true :: rest.map (fun _ => .again i)

theorem stepsOfCalls_release (i : Nat) (c : Call) (rest : List Call) :
    ∀ st ∈ stepsOfCalls i (c :: rest), callsRelease i st = true := by
  intro st hst
  rcases List.mem_cons.mp hst with rfl | hst
  · exact beq_self_eq_true i
  · obtain ⟨_, _, rfl⟩ := List.mem_map.mp hst; exact beq_self_eq_true i

example : (run 2 ([Step.acquire, .acquire] ++ stepsOfCalls 1 (inCalls (.readDone false)) ++ stepsOfCalls 0 (outCalls .declined))).avail = 2 := by decide

end Pm
