/-! C09: OFFER handling — per-key verdicts, connection id, and what reaches validation. -/
namespace Of

inductive Verdict where
  | accepted | declined | alreadyStored | notWithinRadius | rateLimited | inProgress
deriving DecidableEq, Repr

def Verdict.name : Verdict → String
  | .accepted => "accepted" | .declined => "declined" | .alreadyStored => "alreadyStored"
  | .notWithinRadius => "notWithinRadius" | .rateLimited => "rateLimited" | .inProgress => "inProgress"

structure Env where
  inRange : Nat → Bool
  stored : Nat → Bool
  inflight : Nat → Bool
  queueFull : Bool         -- only consulted by the v0 filter

/-- `filterContentKeysV1` -/
def verdictV1 (e : Env) (k : Nat) : Verdict :=
  if !e.inRange k then .notWithinRadius
  else if e.stored k then .alreadyStored
  else if e.inflight k then .inProgress
  else .accepted

/-- `filterContentKeysV0` (bit per key) rendered as verdicts -/
def verdictV0 (e : Env) (k : Nat) : Verdict :=
  if !e.queueFull && e.inRange k && !e.stored k then .accepted else .declined

def verdicts (v : Nat) (e : Env) (keys : List Nat) : List Verdict :=
  keys.map (if v = 0 then verdictV0 e else verdictV1 e)

/-- the verdict of one key -/
def verdict (v : Nat) (e : Env) : Nat → Verdict := if v = 0 then verdictV0 e else verdictV1 e

theorem verdicts_eq_map (v : Nat) (e : Env) (keys : List Nat) : verdicts v e keys = keys.map (verdict v e) := rfl

theorem verdict_accepted_iff (v : Nat) (e : Env) (k : Nat) : verdict v e k = .accepted ↔
    e.inRange k = true ∧ e.stored k = false ∧ (if v = 0 then e.queueFull = false else e.inflight k = false) := by
  unfold verdict
  split
  · have table : ∀ q r s : Bool, (if !q && r && !s then Verdict.accepted else .declined) = .accepted ↔
        r = true ∧ s = false ∧ q = false := by decide
    exact table e.queueFull (e.inRange k) (e.stored k)
  · have table : ∀ r s f : Bool, (if !r then Verdict.notWithinRadius else if s then .alreadyStored
        else if f then .inProgress else .accepted) = .accepted ↔ r = true ∧ s = false ∧ f = false := by decide
    exact table (e.inRange k) (e.stored k) (e.inflight k)

structure Reply where
  verdicts : List Verdict
  connId : Option Nat           -- announced connection id (none = 0 on the wire)
  waitingFor : List Nat         -- keys the receive goroutine will pair with the stream, if any

def acceptedKeys (keys : List Nat) (vs : List Verdict) : List Nat :=
  (keys.zip vs).filterMap (fun p => if p.2 = .accepted then some p.1 else none)

theorem acceptedKeys_map (f : Nat → Verdict) (keys : List Nat) :
    acceptedKeys keys (keys.map f) = keys.filter (fun k => f k = .accepted) := by
  unfold acceptedKeys
  induction keys with
  | nil => rfl
  | cons k ks ih =>
    simp only [List.map_cons, List.zip_cons_cons, List.filterMap_cons, List.filter_cons, ih]
    by_cases h : f k = .accepted <;> simp [h]

/-- `handleOffer`; `quirkV0` = keep the accept bits when no slot was obtained; /repo clears the bit list since c605555 -/
def handleOffer (quirkV0 : Bool) (v : Nat) (e : Env) (permit : Bool) (cid : Nat) (keys : List Nat) : Reply :=
  let vs := verdicts v e keys
  let acc := acceptedKeys keys vs
  if acc = [] then { verdicts := vs, connId := none, waitingFor := [] }
  else if permit then { verdicts := vs, connId := some cid, waitingFor := acc }
  else if v = 0 then
    { verdicts := if quirkV0 then vs else vs.map (fun _ => .declined), connId := none, waitingFor := [] }
  else { verdicts := vs.map (fun _ => .rateLimited), connId := none, waitingFor := [] }

theorem handleOffer_permit (q : Bool) (v : Nat) (e : Env) (cid : Nat) (keys : List Nat) :
    handleOffer q v e true cid keys =
      { verdicts := verdicts v e keys,
        connId := if acceptedKeys keys (verdicts v e keys) = [] then none else some cid,
        waitingFor := acceptedKeys keys (verdicts v e keys) } := by
  by_cases h : acceptedKeys keys (verdicts v e keys) = [] <;> simp [handleOffer, h]

theorem handleOffer_noPermit (q : Bool) (v : Nat) (e : Env) (cid : Nat) (keys : List Nat) :
    handleOffer q v e false cid keys =
      { verdicts := if acceptedKeys keys (verdicts v e keys) = [] then verdicts v e keys
          else if v = 0 then (if q then verdicts v e keys else (verdicts v e keys).map fun _ => .declined)
          else (verdicts v e keys).map fun _ => .rateLimited,
        connId := none, waitingFor := [] } := by
  by_cases h : acceptedKeys keys (verdicts v e keys) = []
  · rw [handleOffer, if_pos h, if_pos h]
  · by_cases hv : v = 0
    · rw [handleOffer, if_neg h, if_neg h, if_neg Bool.false_ne_true, if_pos hv, if_pos hv]
    · rw [handleOffer, if_neg h, if_neg h, if_neg Bool.false_ne_true, if_neg hv, if_neg hv]

/-- C09: exactly one verdict per offered key -/
theorem verdict_count (q : Bool) (v : Nat) (e : Env) (p : Bool) (cid : Nat) (keys : List Nat) :
    (handleOffer q v e p cid keys).verdicts.length = keys.length := by
  cases p
  · simp [handleOffer_noPermit, apply_ite List.length, verdicts]
  · simp [handleOffer_permit, verdicts]

/-- the ideal model never answers `accepted` without a slot: either nothing was accepted anyway, or every verdict was
    rewritten (`quirkV0` kept them for version 0, see `Props.C09.v0_ratelimited_witness`) -/
theorem noPermit_not_accepted (v : Nat) (e : Env) (cid : Nat) (keys : List Nat) :
    Verdict.accepted ∉ (handleOffer false v e false cid keys).verdicts := by
  rw [handleOffer_noPermit]
  by_cases hc : acceptedKeys keys (verdicts v e keys) = []
  · rw [if_pos hc]
    rw [verdicts_eq_map] at hc ⊢
    intro hm
    obtain ⟨k, hk, hf⟩ := List.mem_map.mp hm
    have : k ∈ acceptedKeys keys (keys.map (verdict v e)) := by
      rw [acceptedKeys_map]; exact List.mem_filter.mpr ⟨hk, decide_eq_true hf⟩
    rw [hc] at this; cases this
  · by_cases hv : v = 0
    · simp [if_neg hc, if_pos hv]
    · simp [if_neg hc, if_neg hv]

/-- C09 (ideal model): a key is marked accepted only if it is in range, not stored, (v1) not already
    being received, and a slot was obtained -/
theorem accepted_only_if (v : Nat) (e : Env) (p : Bool) (cid : Nat) (keys : List Nat) (i : Nat)
    (hi : i < keys.length)
    (h : (handleOffer false v e p cid keys).verdicts[i]? = some .accepted) :
    e.inRange keys[i] = true ∧ e.stored keys[i] = false ∧ (v ≠ 0 → e.inflight keys[i] = false) ∧ p = true := by
  cases p
  · exact absurd (List.mem_of_getElem? h) (noPermit_not_accepted v e cid keys)
  · rw [handleOffer_permit, verdicts_eq_map, List.getElem?_map, List.getElem?_eq_getElem hi] at h
    obtain ⟨h1, h2, h3⟩ := (verdict_accepted_iff v e _).mp (Option.some.inj h)
    exact ⟨h1, h2, fun hv => (if_neg hv).mp h3, rfl⟩

/-- C09: a connection id is announced exactly when the node is waiting for the accepted keys -/
theorem connid_iff (v : Nat) (e : Env) (p : Bool) (cid : Nat) (keys : List Nat) :
    ((handleOffer false v e p cid keys).connId.isSome ↔ (handleOffer false v e p cid keys).waitingFor ≠ []) ∧
    ((handleOffer false v e p cid keys).connId.isSome →
       (handleOffer false v e p cid keys).waitingFor = acceptedKeys keys (handleOffer false v e p cid keys).verdicts) := by
  cases p
  · rw [handleOffer_noPermit]; simp
  · rw [handleOffer_permit]
    dsimp only
    split
    · next h => exact ⟨⟨nofun, fun hne => absurd h hne⟩, nofun⟩
    · next h => exact ⟨⟨fun _ => h, fun _ => rfl⟩, fun _ => rfl⟩

/-- what both sides select with the verdict list: the offerer from its contents, the receiver from the keys -/
def pick {α : Type} (xs : List α) (vs : List Verdict) : List α :=
  (xs.zip vs).filterMap (fun p => if p.2 = .accepted then some p.1 else none)

theorem acceptedKeys_eq_pick (keys : List Nat) (vs : List Verdict) : acceptedKeys keys vs = pick keys vs := rfl

theorem pick_cons {α : Type} (x : α) (xs : List α) (v : Verdict) (vs : List Verdict) :
    pick (x :: xs) (v :: vs) = if v = .accepted then x :: pick xs vs else pick xs vs := by
  by_cases h : v = .accepted <;> simp [pick, h]

/-- C09: the items handed to validation are exactly the offered contents of the accepted keys paired
    with those keys, in order (given the stream round-trips, C15, and the verdict list round-trips, C14) -/
theorem pairing {α β : Type} (ks : List α) (cs : List β) (vs : List Verdict)
    (h1 : ks.length = vs.length) (h2 : cs.length = vs.length) :
    (pick ks vs).zip (pick cs vs) = pick (ks.zip cs) vs ∧ (pick ks vs).length = (pick cs vs).length := by
  induction vs generalizing ks cs with
  | nil =>
    cases List.eq_nil_of_length_eq_zero h1
    cases List.eq_nil_of_length_eq_zero h2
    exact ⟨rfl, rfl⟩
  | cons v vs ih =>
    obtain ⟨k, ks, rfl⟩ := List.exists_cons_of_length_eq_add_one h1
    obtain ⟨c, cs, rfl⟩ := List.exists_cons_of_length_eq_add_one h2
    have := ih ks cs (Nat.succ.inj h1) (Nat.succ.inj h2)
    rw [List.zip_cons_cons, pick_cons, pick_cons, pick_cons]
    split
    · exact ⟨congrArg ((k, c) :: ·) this.1, congrArg Nat.succ this.2⟩
    · exact this

/-- a stream with a different item count is discarded -/
def handleOfferedContents {α β : Type} (keys : List α) (contents : List β) : Option (List (α × β)) :=
  if keys.length ≠ contents.length then none else some (keys.zip contents)

theorem count_mismatch_dropped {α β : Type} (keys : List α) (contents : List β) (h : keys.length ≠ contents.length) :
    handleOfferedContents keys contents = none := by simp [handleOfferedContents, h]

#print axioms pairing

#print axioms accepted_only_if
end Of
