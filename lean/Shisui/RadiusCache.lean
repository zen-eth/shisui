/-! C20: the radius cache under ping / pong reports (`processPing`, `processPongPayload`, `updateRadiusCacheIfNeeded`).
    A report is applied only while the peer is a table entry or replacement, only for payload types the network supports,
    and only if the payload decodes. -/
namespace Rc

structure Report where
  member : Bool        -- peer is in the table or its replacement list when the report is processed
  supported : Bool     -- payload type is a radius-carrying type supported by this network
  wellFormed : Bool    -- payload decodes
  radius : Nat
deriving DecidableEq, Repr

def applies (r : Report) : Bool := r.member && r.supported && r.wellFormed

/-- cache entry of one peer after one report -/
def step (c : Option Nat) (r : Report) : Option Nat := if applies r then some r.radius else c

def run (c : Option Nat) (rs : List Report) : Option Nat := rs.foldl step c

/-- a cell that every event either sets or leaves alone holds what the last setting event set -/
theorem foldl_last_setter {α β : Type} {step : Option β → α → Option β} {sets : α → Option β}
    (h : ∀ c a, step c a = (sets a).or c) (c : Option β) (l : List α) :
    l.foldl step c = ((l.filterMap sets).getLast?).or c := by
  induction l generalizing c with
  | nil => rfl
  | cons a l ih =>
    rw [List.foldl_cons, ih, h, List.filterMap_cons]
    cases sets a with
    | none => rfl
    | some v => rw [List.getLast?_cons]; cases (l.filterMap sets).getLast? <;> rfl

/-- C20: after any sequence of reports processed in order, the cache holds the radius of the LAST report that applies,
    and is unchanged if none applies -/
theorem radius_is_last_report (c : Option Nat) (rs : List Report) :
    run c rs = match (rs.filter applies).getLast? with
      | some r => some r.radius
      | none => c := by
  have := foldl_last_setter (step := step) (sets := fun r => if applies r then some r.radius else none)
    (fun c r => by unfold step; split <;> rfl) c rs
  -- the radii set by a list of reports are those of the reports that apply
  have hf : rs.filterMap (fun r => if applies r then some r.radius else none) = (rs.filter applies).map (·.radius) := by
    rw [← List.filterMap_eq_map, List.filterMap_filter]; rfl
  rw [hf, List.getLast?_map] at this
  rw [run, this]
  cases (rs.filter applies).getLast? <;> rfl

/-! ### with the entry point that adds a record by hand (`AddEnr`)
    A node that ENTERS the table by the call starts with the maximum radius; for a node that is in the table already the
    call changes nothing (seeded change C20g made it reset the radius). -/
inductive Ev where
  | report (r : Report)
  | addEnr (entered : Bool)      -- entered = the node was not in the table before and is an entry afterwards
deriving Repr

def maxRadius : Nat := 2 ^ 256 - 1

def stepEv (c : Option Nat) : Ev → Option Nat
  | .report r => step c r
  | .addEnr entered => if entered then some maxRadius else c

def runEv (c : Option Nat) (es : List Ev) : Option Nat := es.foldl stepEv c

/-- the last event that sets the cache decides it: an applying report sets the reported radius, an entering AddEnr the maximum -/
def sets : Ev → Option Nat
  | .report r => if applies r then some r.radius else none
  | .addEnr entered => if entered then some maxRadius else none

theorem stepEv_sets (c : Option Nat) (e : Ev) : stepEv c e = (sets e).or c := by
  cases e <;> simp only [stepEv, step, sets] <;> split <;> rfl

/-- AddEnr for a node that is already in the table never changes what it last reported -/
theorem addEnr_known_keeps_radius (c : Option Nat) : stepEv c (.addEnr false) = c := rfl

#print axioms radius_is_last_report
end Rc
