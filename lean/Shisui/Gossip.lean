/-! C20: gossip target selection. The farther covered nodes are shuffled, so what `GossipAndReturnPeers` may return is a
    relation (`Allowed`); `allowedB` is a Boolean check that implies it (`allowedB_sound`; it also rejects a node listed
    twice among the shuffled ones), which the driver evaluates on real gossip results. -/
namespace Gs

structure Ctx where
  closest : List Nat            -- the ≤ 32 table nodes nearest the content id, in log-distance order
  radius : Nat → Option Nat     -- last reported radius per node, if any
  covers : Nat → Nat → Bool     -- the in-range test (C06) for (node, its radius)
  src : Option Nat              -- node the content came from

def isCovered (c : Ctx) (n : Nat) : Bool :=
  match c.radius n with
  | some r => c.covers n r && (c.src != some n)
  | none => false

def covered (c : Ctx) : List Nat := c.closest.filter (isCovered c)

/-- what `GossipAndReturnPeers` may return -/
def Allowed (c : Ctx) (result : List Nat) : Prop :=
  let cov := covered c
  if cov.length ≤ 4 then result = cov
  else result.take 4 = cov.take 4 ∧
       (∀ n ∈ result.drop 4, n ∈ cov.drop 4) ∧ (result.drop 4).length = min 4 (cov.drop 4).length

/-- the clauses of `Allowed`, and no node twice among the shuffled ones -/
def allowedB (c : Ctx) (result : List Nat) : Bool :=
  let cov := covered c
  if cov.length ≤ 4 then result == cov
  else result.take 4 == cov.take 4 &&
       (result.drop 4).all (fun n => (cov.drop 4).contains n) && (result.drop 4).length == min 4 (cov.drop 4).length
       && (result.drop 4).eraseDups.length == (result.drop 4).length

theorem mem_covered (c : Ctx) (n : Nat) :
    n ∈ covered c ↔ n ∈ c.closest ∧ (∃ r, c.radius n = some r ∧ c.covers n r = true) ∧ c.src ≠ some n := by
  unfold covered isCovered
  cases h : c.radius n <;> simp [h]

/-- both cases of `Allowed` at once: the first four are the four closest covered nodes, the others are covered nodes beyond
    them, and there are at most four of those -/
theorem Allowed.parts {c : Ctx} {result : List Nat} (h : Allowed c result) :
    result.take 4 = (covered c).take 4 ∧ (∀ n ∈ result.drop 4, n ∈ (covered c).drop 4) ∧ (result.drop 4).length ≤ 4 := by
  unfold Allowed at h
  by_cases hc : (covered c).length ≤ 4
  · simp only [if_pos hc] at h
    subst h
    exact ⟨rfl, fun _ h => h, by rw [List.length_drop]; exact Nat.le_trans (Nat.sub_le ..) hc⟩
  · simp only [if_neg hc] at h
    exact ⟨h.1, h.2.1, h.2.2 ▸ Nat.min_le_left ..⟩

theorem Allowed.mem_covered {c : Ctx} {result : List Nat} (h : Allowed c result) {n : Nat} (hn : n ∈ result) :
    n ∈ covered c := by
  rw [← List.take_append_drop 4 result, List.mem_append] at hn
  exact hn.elim (fun hn => List.mem_of_mem_take (h.parts.1 ▸ hn)) (fun hn => List.mem_of_mem_drop (h.parts.2.1 n hn))

theorem allowedB_sound (c : Ctx) (result : List Nat) (h : allowedB c result = true) : Allowed c result := by
  unfold allowedB at h
  unfold Allowed
  by_cases hc : (covered c).length ≤ 4
  · simp only [if_pos hc, beq_iff_eq] at h ⊢
    exact h
  · simp only [if_neg hc, Bool.and_eq_true, beq_iff_eq, List.all_eq_true, List.contains_iff_mem] at h ⊢
    obtain ⟨⟨⟨htake, hmem⟩, hlen⟩, _⟩ := h
    exact ⟨htake, hmem, hlen⟩

end Gs
