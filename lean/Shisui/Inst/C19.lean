import Shisui.Gen.Consts
/-! Instantiation obligation (T1): /repo's default version list `portalwire.Versions` has two entries and lists 0 first (the
    base version of C19). -/
namespace Inst.C19
theorem versions : Gen.versionsLen = 2 ∧ Gen.version0 = 0 := by decide
#print axioms versions
end Inst.C19
