import Shisui.Gen.Consts
namespace Inst.C16
/-- `DefaultUtpConnSize` (default limit of either slot pool), `concurrentOffers`, `offerQueueSize` (portal_protocol.go); `Pm` is
    about any `limit` and uses none of them -/
theorem slots : Gen.DefaultUtpConnSize = 50 ∧ Gen.concurrentOffers = 50 ∧ Gen.offerQueueSize = 1000 := by decide
#print axioms slots
end Inst.C16
