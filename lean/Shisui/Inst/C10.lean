import Shisui.Gen.Consts
import Shisui.Lookup
namespace Inst.C10
/-- `alpha` and `bucketSize` (table.go) are `Lk.alpha` and `Lk.kRes`; `lookupRequestLimit` (portal_protocol.go) is used by no model -/
theorem lookup_constants : Gen.alpha = Lk.alpha ∧ Gen.bucketSize = Lk.kRes ∧ Gen.lookupRequestLimit = 3 := by decide
#print axioms lookup_constants
end Inst.C10
