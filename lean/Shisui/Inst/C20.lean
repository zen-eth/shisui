import Shisui.Gen.Consts
namespace Inst.C20
/-- payload type codes (ping_ext/types.go) and PING/PONG message codes (types.go); `Rc.Report.supported` abstracts the type, the
    numbers occur in `Drv.C20` only -/
theorem ping_ext_codes :
    Gen.pingext_ClientInfo = 0 ∧ Gen.pingext_BasicRadius = 1 ∧ Gen.pingext_HistoryRadius = 2 ∧ Gen.pingext_Error = 65535 ∧
    Gen.PING = 0 ∧ Gen.PONG = 1 := by decide
#print axioms ping_ext_codes
end Inst.C20
