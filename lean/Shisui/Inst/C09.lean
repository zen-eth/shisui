import Shisui.Gen.Consts
namespace Inst.C09
/-- `AcceptCode` (portal_protocol_v1.go), `ContentKeysLimit` and the OFFER/ACCEPT message codes (types.go); `Of.Verdict` lists its
    constructors in the order of the codes, the model uses none of the numbers -/
theorem accept_codes :
    Gen.Accepted = 0 ∧ Gen.GenericDeclined = 1 ∧ Gen.AlreadyStored = 2 ∧ Gen.NotWithinRadius = 3 ∧ Gen.RateLimited = 4 ∧
    Gen.InboundTransferInProgress = 5 ∧ Gen.ContentKeysLimit = 64 ∧ Gen.OFFER = 6 ∧ Gen.ACCEPT = 7 := by decide
#print axioms accept_codes
end Inst.C09
