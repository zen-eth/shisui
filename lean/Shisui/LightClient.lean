/-! C12, one step: light-client verify / apply (beacon/light_client.go:291-443) over abstract updates.

`verify` is a chain of guards; its seven conditions are also defined one by one (`violated`), and `verify` returns the
first violated one (`verify_eq_first_violated`), so the driver can accept any member of the set as the implementation's
error (DESIGN §2.7: re-ordering two independent checks is a harmless rewrite). `apply` is the four stages of the Go
code; `apply_eff` says what they do together, and the per-step theorems are read off it. -/
namespace Lc

structure Store where
  finSlot : Nat
  optSlot : Nat
  cur : Nat                 -- committee identity
  next : Option Nat
  prevMax : Nat
  curMax : Nat
deriving DecidableEq, Repr

structure Update where
  attSlot : Nat
  sigSlot : Nat
  fin : Option Nat          -- FinalizedHeader (slot) if present
  finBranch : Bool          -- FinalityBranch present
  nextComm : Option Nat     -- NextSyncCommittee if present
  nextBranch : Bool         -- NextSyncCommitteeBranch present
  bits : Nat                -- number of participation bits set
  finProofOk : Bool         -- IsFinalityProofValid
  nextProofOk : Bool        -- IsNextCommitteeProofValid
  sigOk : Nat → Bool        -- aggregate signature valid for the participating keys of that committee

inductive Err where
  | insufficientParticipation | invalidTimestamp | invalidPeriod | notRelevant
  | invalidFinalityProof | invalidNextSyncCommitteeProof | invalidSignature
deriving DecidableEq, Repr

/-- `CalcSyncPeriod`: 32 slots per epoch (SLOTS_PER_EPOCH), 256 epochs per sync-committee period
    (EPOCHS_PER_SYNC_COMMITTEE_PERIOD) -/
def period (slot : Nat) : Nat := slot / 32 / 256

/-- `updateFinalizedSlot`: `common.Slot(0)` unless the update carries a finalized header (light_client.go:296-299, 398-401) -/
def finSlotOf (u : Update) : Nat := u.fin.getD 0

/-- `VerifyGenericUpdate` -/
def verify (st : Store) (u : Update) (now : Nat) : Except Err Unit :=
  if u.bits = 0 then .error .insufficientParticipation
  else if ¬ (now ≥ u.sigSlot ∧ u.sigSlot > u.attSlot ∧ u.attSlot ≥ finSlotOf u) then .error .invalidTimestamp
  else
    let storePeriod := period st.finSlot
    let sigPeriod := period u.sigSlot
    let validPeriod := if st.next.isSome then (sigPeriod = storePeriod ∨ sigPeriod = storePeriod + 1)
                       else sigPeriod = storePeriod
    if ¬ validPeriod then .error .invalidPeriod
    else
      let hasNext := st.next.isNone ∧ u.nextComm.isSome ∧ period u.attSlot = storePeriod
      if u.attSlot ≤ st.finSlot ∧ ¬ hasNext then .error .notRelevant
      else if u.fin.isSome ∧ u.finBranch = true ∧ u.finProofOk = false then .error .invalidFinalityProof
      else if u.nextComm.isSome ∧ u.nextBranch = true ∧ u.nextProofOk = false then .error .invalidNextSyncCommitteeProof
      else
        let committee := if sigPeriod = storePeriod then some st.cur else st.next
        match committee with
        | none => .error .invalidSignature      -- unreachable: next is some when sigPeriod = storePeriod+1
        | some c => if u.sigOk c then .ok () else .error .invalidSignature

def committeeFor (st : Store) (u : Update) : Option Nat :=
  if period u.sigSlot = period st.finSlot then some st.cur else st.next

/-! ## the conditions of `VerifyGenericUpdate`, separately -/

def timeOk (u : Update) (now : Nat) : Prop := now ≥ u.sigSlot ∧ u.sigSlot > u.attSlot ∧ u.attSlot ≥ finSlotOf u
instance (u : Update) (now : Nat) : Decidable (timeOk u now) := by unfold timeOk; infer_instance

def periodOk (st : Store) (u : Update) : Prop :=
  if st.next.isSome then (period u.sigSlot = period st.finSlot ∨ period u.sigSlot = period st.finSlot + 1)
  else period u.sigSlot = period st.finSlot
instance (st : Store) (u : Update) : Decidable (periodOk st u) := by unfold periodOk; infer_instance

def relevantOk (st : Store) (u : Update) : Prop :=
  ¬ (u.attSlot ≤ st.finSlot ∧ ¬ (st.next.isNone ∧ u.nextComm.isSome ∧ period u.attSlot = period st.finSlot))
instance (st : Store) (u : Update) : Decidable (relevantOk st u) := by unfold relevantOk; infer_instance

def finProofBad (u : Update) : Prop := u.fin.isSome ∧ u.finBranch = true ∧ u.finProofOk = false
instance (u : Update) : Decidable (finProofBad u) := by unfold finProofBad; infer_instance

def nextProofBad (u : Update) : Prop := u.nextComm.isSome ∧ u.nextBranch = true ∧ u.nextProofOk = false
instance (u : Update) : Decidable (nextProofBad u) := by unfold nextProofBad; infer_instance

def sigGood (st : Store) (u : Update) : Bool :=
  match committeeFor st u with
  | none => false
  | some c => u.sigOk c

/-- every condition of `VerifyGenericUpdate` that the update violates, in the order the code tests them -/
def violated (st : Store) (u : Update) (now : Nat) : List Err :=
  (if u.bits = 0 then [Err.insufficientParticipation] else []) ++
  (if ¬ timeOk u now then [Err.invalidTimestamp] else []) ++
  (if ¬ periodOk st u then [Err.invalidPeriod] else []) ++
  (if ¬ relevantOk st u then [Err.notRelevant] else []) ++
  (if finProofBad u then [Err.invalidFinalityProof] else []) ++
  (if nextProofBad u then [Err.invalidNextSyncCommitteeProof] else []) ++
  (if sigGood st u = false then [Err.invalidSignature] else [])

/-- the verdict of a chain of guards: the first violated condition, if any -/
def firstErr : List Err → Except Err Unit
  | [] => .ok ()
  | e :: _ => .error e

theorem firstErr_guard (c : Prop) [Decidable c] (e : Err) (l : List Err) :
    firstErr ((if c then [e] else []) ++ l) = if c then .error e else firstErr l := by
  split <;> rfl

theorem firstErr_ok_iff (l : List Err) : firstErr l = .ok () ↔ l = [] := by
  cases l <;> simp [firstErr]

theorem firstErr_mem {l : List Err} {e : Err} (h : firstErr l = .error e) : e ∈ l := by
  cases l with
  | nil => cases h
  | cons a l => cases h; exact List.mem_cons_self

theorem verify_eq_first_violated (st : Store) (u : Update) (now : Nat) :
    verify st u now = firstErr (violated st u now) := by
  have sig : firstErr (if sigGood st u = false then [Err.invalidSignature] else []) =
      match committeeFor st u with
      | none => .error .invalidSignature
      | some c => if u.sigOk c then .ok () else .error .invalidSignature := by
    unfold sigGood
    cases committeeFor st u with
    | none => rfl
    | some c => cases h : u.sigOk c <;> simp only [h] <;> rfl
  simp only [violated, List.append_assoc, firstErr_guard, sig, relevantOk, Decidable.not_not]
  -- what is left is `verify` with its conditions named
  rfl

theorem verify_ok_iff {st : Store} {u : Update} {now : Nat} : verify st u now = .ok () ↔ violated st u now = [] := by
  rw [verify_eq_first_violated, firstErr_ok_iff]

theorem violated_nil_iff {st : Store} {u : Update} {now : Nat} : violated st u now = [] ↔
    u.bits ≠ 0 ∧ timeOk u now ∧ periodOk st u ∧ relevantOk st u ∧ ¬ finProofBad u ∧ ¬ nextProofBad u ∧
      sigGood st u = true := by
  simp only [violated, List.append_eq_nil_iff, ite_eq_right_iff, List.cons_ne_nil, imp_false, Decidable.not_not,
    and_assoc, Bool.not_eq_false, ne_eq]

theorem timeOk_iff {u : Update} {now : Nat} :
    timeOk u now ↔ now ≥ u.sigSlot ∧ u.sigSlot > u.attSlot ∧ u.attSlot ≥ finSlotOf u := Iff.rfl

theorem periodOk_iff {st : Store} {u : Update} : periodOk st u ↔
    period u.sigSlot = period st.finSlot ∨ (st.next.isSome ∧ period u.sigSlot = period st.finSlot + 1) := by
  unfold periodOk; split <;> simp [*]

theorem relevantOk_iff {st : Store} {u : Update} : relevantOk st u ↔
    u.attSlot > st.finSlot ∨ (st.next.isNone ∧ u.nextComm.isSome ∧ period u.attSlot = period st.finSlot) := by
  unfold relevantOk; rw [Decidable.not_and_iff_not_or_not, Decidable.not_not, Nat.not_le]

theorem not_finProofBad_iff {u : Update} :
    ¬ finProofBad u ↔ (u.fin.isSome → u.finBranch = true → u.finProofOk = true) := by
  simp [finProofBad]

theorem not_nextProofBad_iff {u : Update} :
    ¬ nextProofBad u ↔ (u.nextComm.isSome → u.nextBranch = true → u.nextProofOk = true) := by
  simp [nextProofBad]

theorem sigGood_iff {st : Store} {u : Update} :
    sigGood st u = true ↔ ∃ c, committeeFor st u = some c ∧ u.sigOk c = true := by
  unfold sigGood; cases committeeFor st u <;> simp

theorem verify_sound (st : Store) (u : Update) (now : Nat) (h : verify st u now = .ok ()) :
    1 ≤ u.bits ∧ now ≥ u.sigSlot ∧ u.sigSlot > u.attSlot ∧ u.attSlot ≥ finSlotOf u ∧
    (period u.sigSlot = period st.finSlot ∨ (st.next.isSome ∧ period u.sigSlot = period st.finSlot + 1)) ∧
    (u.attSlot > st.finSlot ∨ (st.next.isNone ∧ u.nextComm.isSome ∧ period u.attSlot = period st.finSlot)) ∧
    (u.fin.isSome → u.finBranch = true → u.finProofOk = true) ∧
    (u.nextComm.isSome → u.nextBranch = true → u.nextProofOk = true) ∧
    (∃ c, committeeFor st u = some c ∧ u.sigOk c = true) := by
  obtain ⟨bits, time, per, rel, fin, next, sig⟩ := violated_nil_iff.mp (verify_ok_iff.mp h)
  obtain ⟨now_sig, sig_att, att_fin⟩ := timeOk_iff.mp time
  exact ⟨Nat.pos_of_ne_zero bits, now_sig, sig_att, att_fin, periodOk_iff.mp per, relevantOk_iff.mp rel,
    not_finProofBad_iff.mp fin, not_nextProofBad_iff.mp next, sigGood_iff.mp sig⟩

/-! ## `ApplyGenericUpdate`, in the four stages of the Go code -/

def safetyThreshold (st : Store) : Nat := (max st.curMax st.prevMax) / 2

def stageMax (st : Store) (u : Update) : Store :=
  if st.curMax < u.bits then { st with curMax := u.bits } else st

def stageOpt (st : Store) (u : Update) : Store :=
  if u.bits > safetyThreshold st ∧ u.attSlot > st.optSlot then { st with optSlot := u.attSlot } else st

def hasFinalizedNext (st : Store) (u : Update) : Prop :=
  st.next.isNone ∧ (u.nextComm.isSome ∧ u.nextBranch = true) ∧ (u.fin.isSome ∧ u.finBranch = true) ∧
    period (finSlotOf u) = period u.attSlot

instance (st : Store) (u : Update) : Decidable (hasFinalizedNext st u) := by unfold hasFinalizedNext; infer_instance

/-- `512 * 2`: two thirds of the SYNC_COMMITTEE_SIZE = 512 members, as the code writes it (`commiteeBits*3 >= 512*2`) -/
def shouldApply (st : Store) (u : Update) : Prop :=
  u.bits * 3 ≥ 512 * 2 ∧ (finSlotOf u > st.finSlot ∨ hasFinalizedNext st u)

instance (st : Store) (u : Update) : Decidable (shouldApply st u) := by unfold shouldApply; infer_instance

/-- the default of `getD` is never taken: that branch is the `else` of `st.next.isNone` -/
def stageCommittee (st : Store) (u : Update) : Store :=
  if st.next.isNone then { st with next := u.nextComm }
  else if period (finSlotOf u) = period st.finSlot + 1 then
    { st with cur := st.next.getD st.cur, next := u.nextComm, prevMax := st.curMax, curMax := 0 }
  else st

def stageFin (st : Store) (u : Update) : Store :=
  if finSlotOf u > st.finSlot then
    let st4 := { st with finSlot := finSlotOf u }
    if st4.finSlot > st4.optSlot then { st4 with optSlot := st4.finSlot } else st4
  else st

def apply (st : Store) (u : Update) : Store :=
  let s2 := stageOpt (stageMax st u) u
  if shouldApply s2 u then stageFin (stageCommittee s2 u) u else s2

theorem stageMax_eff (st : Store) (u : Update) :
    (stageMax st u).finSlot = st.finSlot ∧ (stageMax st u).optSlot = st.optSlot ∧
    (stageMax st u).cur = st.cur ∧ (stageMax st u).next = st.next := by
  unfold stageMax; split <;> exact ⟨rfl, rfl, rfl, rfl⟩

theorem stageOpt_eff (st : Store) (u : Update) :
    (stageOpt st u).finSlot = st.finSlot ∧ st.optSlot ≤ (stageOpt st u).optSlot ∧
    (stageOpt st u).cur = st.cur ∧ (stageOpt st u).next = st.next := by
  unfold stageOpt; split
  · next h => exact ⟨rfl, Nat.le_of_lt h.2, rfl, rfl⟩
  · exact ⟨rfl, Nat.le_refl _, rfl, rfl⟩

theorem stageCommittee_eff (s : Store) (u : Update) :
    (stageCommittee s u).finSlot = s.finSlot ∧ (stageCommittee s u).optSlot = s.optSlot ∧
    (((stageCommittee s u).cur = s.cur ∧ (stageCommittee s u).next = s.next) ∨
     ((stageCommittee s u).cur = s.cur ∧ (stageCommittee s u).next = u.nextComm ∧ s.next = none) ∨
     ((stageCommittee s u).next = u.nextComm ∧ s.next = some (stageCommittee s u).cur ∧
       period (finSlotOf u) = period s.finSlot + 1)) := by
  unfold stageCommittee
  cases hn : s.next with
  | none => exact ⟨rfl, rfl, .inr (.inl ⟨rfl, rfl, rfl⟩)⟩
  | some c =>
    rw [if_neg (by simp)]
    split
    · next boundary => exact ⟨rfl, rfl, .inr (.inr ⟨rfl, rfl, boundary⟩)⟩
    · exact ⟨rfl, rfl, .inl ⟨rfl, hn⟩⟩

theorem stageFin_eff (st : Store) (u : Update) :
    (stageFin st u).finSlot = max st.finSlot (finSlotOf u) ∧ st.optSlot ≤ (stageFin st u).optSlot ∧
    (st.finSlot ≤ st.optSlot → (stageFin st u).finSlot ≤ (stageFin st u).optSlot) ∧
    (stageFin st u).cur = st.cur ∧ (stageFin st u).next = st.next := by
  unfold stageFin
  split
  · next h =>
    have hm := (Nat.max_eq_right (Nat.le_of_lt h)).symm
    dsimp only; split
    · next h2 => exact ⟨hm, Nat.le_of_lt h2, fun _ => Nat.le_refl _, rfl, rfl⟩
    · next h2 => exact ⟨hm, Nat.le_refl _, fun _ => Nat.le_of_not_gt h2, rfl, rfl⟩
  · next h => exact ⟨(Nat.max_eq_left (Nat.le_of_not_gt h)).symm, Nat.le_refl _, id, rfl, rfl⟩

/-- `apply` on the slots and the committees, in terms of the ORIGINAL store: the first two stages touch only the
    optimistic slot and the participation maxima. -/
theorem apply_eff (st : Store) (u : Update) :
    st.optSlot ≤ (apply st u).optSlot ∧ (st.finSlot ≤ st.optSlot → (apply st u).finSlot ≤ (apply st u).optSlot) ∧
    (((apply st u).finSlot = st.finSlot ∧ (apply st u).cur = st.cur ∧ (apply st u).next = st.next) ∨
     (u.bits * 3 ≥ 512 * 2 ∧ (apply st u).finSlot = max st.finSlot (finSlotOf u) ∧
      (((apply st u).cur = st.cur ∧ (apply st u).next = st.next) ∨
       ((apply st u).cur = st.cur ∧ (apply st u).next = u.nextComm ∧ st.next = none) ∨
       ((apply st u).next = u.nextComm ∧ st.next = some (apply st u).cur ∧
         period (finSlotOf u) = period st.finSlot + 1)))) := by
  -- `s`, the store after the first two stages, agrees with `st` except that its optimistic slot may be larger
  have early := stageOpt_eff (stageMax st u) u
  obtain ⟨max_fin, max_opt, max_cur, max_next⟩ := stageMax_eff st u
  rw [max_fin, max_opt, max_cur, max_next] at early
  unfold apply
  generalize stageOpt (stageMax st u) u = s at *
  obtain ⟨s_fin, s_opt, s_cur, s_next⟩ := early
  have s_inv (h : st.finSlot ≤ st.optSlot) : s.finSlot ≤ s.optSlot := s_fin ▸ Nat.le_trans h s_opt
  dsimp only
  split
  · next applied =>
    -- the last two stages, on `s`: facts of the committee stage, then of the finalizing stage in terms of `s`
    obtain ⟨committee_fin, committee_opt, step⟩ := stageCommittee_eff s u
    have final := stageFin_eff (stageCommittee s u) u
    rw [committee_fin, committee_opt] at final
    obtain ⟨final_fin, final_opt, final_inv, final_cur, final_next⟩ := final
    rw [← final_cur, ← final_next, s_fin, s_cur, s_next] at step
    exact ⟨Nat.le_trans s_opt final_opt, fun h => final_inv (s_inv h), .inr ⟨applied.1, s_fin ▸ final_fin, step⟩⟩
  · exact ⟨s_opt, s_inv, .inl ⟨s_fin, s_cur, s_next⟩⟩

theorem apply_monotone (st : Store) (u : Update) (hinv : st.finSlot ≤ st.optSlot) :
    st.finSlot ≤ (apply st u).finSlot ∧ st.optSlot ≤ (apply st u).optSlot ∧
    (apply st u).finSlot ≤ (apply st u).optSlot := by
  obtain ⟨opt_le, inv, outcome⟩ := apply_eff st u
  refine ⟨?_, opt_le, inv hinv⟩
  rcases outcome with ⟨same_fin, -⟩ | ⟨-, fin_new, -⟩
  · exact Nat.le_of_eq same_fin.symm
  · exact fin_new ▸ Nat.le_max_left ..

theorem change_needs_two_thirds (st : Store) (u : Update)
    (h : (apply st u).finSlot ≠ st.finSlot ∨ (apply st u).cur ≠ st.cur ∨ (apply st u).next ≠ st.next) :
    u.bits * 3 ≥ 512 * 2 := by
  obtain ⟨-, -, outcome⟩ := apply_eff st u
  rcases outcome with ⟨same_fin, same_cur, same_next⟩ | ⟨two_thirds, -⟩
  · exact absurd h (by simp [same_fin, same_cur, same_next])
  · exact two_thirds

/-- A rotation takes the stored next committee and uses it up: afterwards the store holds as "next" exactly what this
    update supplied (nothing, for a finality update), never the committee it has just made current (seeded change C12e). -/
theorem rotation (st : Store) (u : Update) (h : (apply st u).cur ≠ st.cur) :
    st.next = some (apply st u).cur ∧ (apply st u).next = u.nextComm := by
  obtain ⟨-, -, outcome⟩ := apply_eff st u
  rcases outcome with ⟨-, same_cur, -⟩ | ⟨-, -, step⟩
  · exact absurd same_cur h
  · rcases step with ⟨same_cur, -⟩ | ⟨same_cur, -⟩ | ⟨next_new, next_was, -⟩
    · exact absurd same_cur h
    · exact absurd same_cur h
    · exact ⟨next_was, next_new⟩

theorem rotate_only_to_next (st : Store) (u : Update) (h : (apply st u).cur ≠ st.cur) :
    st.next = some (apply st u).cur := (rotation st u h).1

theorem period_mono {a b : Nat} (h : a ≤ b) : period a ≤ period b := by
  unfold period
  exact Nat.div_le_div_right (Nat.div_le_div_right h)

theorem period_max (a b : Nat) : period (max a b) = max (period a) (period b) := by
  rcases Nat.le_total a b with h | h
  · rw [Nat.max_eq_right h, Nat.max_eq_right (period_mono h)]
  · rw [Nat.max_eq_left h, Nat.max_eq_left (period_mono h)]

/-- When applying a VERIFIED update changes the stored next committee, the new value is the update's next committee
    and, if there is one, its attested header lies in the period of the store's finalized header after the update
    (so the committee is the one for the following period). -/
theorem next_committee_period (st : Store) (u : Update) (now : Nat) (hv : verify st u now = .ok ())
    (hch : (apply st u).next ≠ st.next) :
    (apply st u).next = u.nextComm ∧ (u.nextComm.isSome → period u.attSlot = period (apply st u).finSlot) := by
  obtain ⟨-, (time : timeOk u now), (per : periodOk st u), (rel : relevantOk st u), -⟩ :=
    violated_nil_iff.mp (verify_ok_iff.mp hv)
  -- periods along the update: finalized ≤ attested ≤ signature, and (relevance) the store's ≤ attested
  obtain ⟨-, sig_after_att, att_after_fin⟩ := timeOk_iff.mp time
  have fin_att := period_mono att_after_fin
  have att_sig := period_mono (Nat.le_of_lt sig_after_att)
  have store_att : period st.finSlot ≤ period u.attSlot :=
    (relevantOk_iff.mp rel).elim (fun newer => period_mono (Nat.le_of_lt newer))
      (fun ⟨_, _, same_period⟩ => Nat.le_of_eq same_period.symm)
  obtain ⟨-, -, outcome⟩ := apply_eff st u
  rcases outcome with ⟨-, -, same_next⟩ | ⟨-, fin_new, step⟩
  · exact absurd same_next hch
  · rw [fin_new, period_max]
    rcases step with ⟨-, same_next⟩ | ⟨-, next_new, next_none⟩ | ⟨next_new, -, boundary⟩
    · exact absurd same_next hch
    · -- no stored next committee: the signature period is the store's, which squeezes the attested one onto it
      refine ⟨next_new, fun _ => ?_⟩
      have sig_store : period u.sigSlot = period st.finSlot :=
        (periodOk_iff.mp per).resolve_right fun h => by simp [next_none] at h
      have e := Nat.le_antisymm (sig_store ▸ att_sig) store_att
      rw [Nat.max_eq_left (e ▸ fin_att)]; exact e
    · -- rotation: the update's finalized header is one period on, its signature at most one
      refine ⟨next_new, fun _ => ?_⟩
      have sig_le : period u.sigSlot ≤ period st.finSlot + 1 :=
        (periodOk_iff.mp per).elim (fun h => h ▸ Nat.le_succ _) (fun h => Nat.le_of_eq h.2)
      rw [Nat.max_eq_right (boundary ▸ Nat.le_succ _)]
      exact Nat.le_antisymm (boundary ▸ Nat.le_trans att_sig sig_le) fin_att

#print axioms verify_eq_first_violated
#print axioms verify_sound
#print axioms apply_monotone
#print axioms change_needs_two_thirds
#print axioms rotate_only_to_next
#print axioms next_committee_period
end Lc
