/-! C04: the content store with values (`Sv`), as a refinement of "value of the last accepted put per id", under histories of
    puts and of close/reopen with any capacity. The pruning pass is a parameter, constrained by `PruneOf`. -/
namespace Sv

abbrev Val := List Nat
abbrev Items := List (Nat × Val)

def get (k : Nat) : Items → Option Val
  | [] => none
  | (k', v) :: rest => if k = k' then some v else get k rest

def ins (k : Nat) (v : Val) : Items → Items
  | [] => [(k, v)]
  | (k', v') :: rest =>
    if k < k' then (k, v) :: (k', v') :: rest
    else if k = k' then (k, v) :: rest
    else (k', v') :: ins k v rest

def sz (e : Nat × Val) : Nat := 32 + e.2.length
def held (l : Items) : Nat := (l.map sz).sum

theorem get_ins (k k' : Nat) (v : Val) (l : Items) : get k' (ins k v l) = if k' = k then some v else get k' l := by
  fun_induction ins k v l with
  | case1 => rfl
  | case2 => rfl
  | case3 =>
    rw [get, get]
    by_cases h : k' = k
    · rw [if_pos h, if_pos h]
    · rw [if_neg h, if_neg h, if_neg h]
  | case4 k2 v2 rest _ hne ih =>
    rw [get, ih, get]
    by_cases h : k' = k2
    · rw [if_pos h, if_neg fun h' => hne (h'.symm.trans h), if_pos h]
    · rw [if_neg h, if_neg h]

/-- every lookup in `l'` gives what it gives in `l`, or nothing: `l'` is what a pruning pass left of `l` -/
def Kept (l' l : Items) : Prop := ∀ k, get k l' = get k l ∨ get k l' = none

theorem kept_refl (l : Items) : Kept l l := fun _ => .inl rfl

/-- keeping a prefix of the list is what prune does -/
theorem kept_prefix (kept dropped : Items) : Kept kept (kept ++ dropped) := by
  intro k
  induction kept with
  | nil => exact .inr rfl
  | cons x xs ih =>
    obtain ⟨k', v'⟩ := x
    rw [List.cons_append, get, get]
    by_cases h : k = k'
    · rw [if_pos h]; exact .inl (if_pos h).symm
    · rw [if_neg h, if_neg h]; exact ih

structure Store where
  items : Items
  tracked : Nat
  radius : Nat
  cap : Nat

/-- prune keeps some prefix of the ascending list (which one is C05's business) -/
structure PruneOf (s s' : Store) : Prop where
  pre : ∃ dropped, s.items = s'.items ++ dropped ∧ s'.tracked + held dropped = s.tracked
  rad : s'.radius ≤ s.radius
  cap : s'.cap = s.cap

inductive PutResult | ok | insufficientRadius
deriving DecidableEq

/-- one accepted or refused put; `prune` is whatever prune computed (constrained by `PruneOf`). `put_of_not_lt` (refused) and
    `put_of_lt` (`settle prune (added s k v)`) are the way in -/
def put (prune : Store → Store) (s : Store) (k : Nat) (v : Val) : Store × PutResult :=
  if ¬ k < s.radius then (s, .insufficientRadius)
  else
    let s1 := { s with items := ins k v s.items, tracked := s.tracked + 32 + v.length }
    (if s1.tracked > s1.cap then prune s1 else s1, .ok)

/-- ghost history: value of the last accepted put per key -/
abbrev Spec := Nat → Option Val

def Refines (s : Store) (spec : Spec) : Prop := ∀ k v, get k s.items = some v → spec k = some v

theorem Refines.of_kept {s s' : Store} {spec : Spec} (h : Refines s spec) (hk : Kept s'.items s.items) :
    Refines s' spec := fun k v hg =>
  (hk k).elim (fun e => h k v (e ▸ hg)) (fun e => nomatch e.symm.trans hg)

def added (s : Store) (k : Nat) (v : Val) : Store :=
  { s with items := ins k v s.items, tracked := s.tracked + 32 + v.length }

def settle (prune : Store → Store) (s : Store) : Store := if s.tracked > s.cap then prune s else s

theorem settle_of_gt (prune : Store → Store) {s : Store} (h : s.tracked > s.cap) : settle prune s = prune s := if_pos h

theorem settle_of_le (prune : Store → Store) {s : Store} (h : s.tracked ≤ s.cap) : settle prune s = s :=
  if_neg (Nat.not_lt.mpr h)

theorem put_of_lt (prune : Store → Store) {s : Store} {k : Nat} (h : k < s.radius) (v : Val) :
    put prune s k v = (settle prune (added s k v), .ok) := if_neg (not_not_intro h)

theorem put_of_not_lt (prune : Store → Store) {s : Store} {k : Nat} (h : ¬ k < s.radius) (v : Val) :
    put prune s k v = (s, .insufficientRadius) := if_pos h

theorem get_added (s : Store) (k k' : Nat) (v : Val) :
    get k' (added s k v).items = if k' = k then some v else get k' s.items := get_ins k k' v s.items

theorem settle_kept {prune : Store → Store} (hp : ∀ s, PruneOf s (prune s)) (s : Store) :
    Kept (settle prune s).items s.items := by
  unfold settle
  split
  · obtain ⟨dropped, hd, _⟩ := (hp s).pre
    rw [hd]; exact kept_prefix _ dropped
  · exact kept_refl _

theorem added_refines {s : Store} {spec : Spec} (h : Refines s spec) (k : Nat) (v : Val) :
    Refines (added s k v) (fun k' => if k' = k then some v else spec k') := fun k' w hg => by
  rw [get_added] at hg
  show (if k' = k then some v else spec k') = some w
  by_cases hk : k' = k
  · rwa [if_pos hk] at hg ⊢
  · rw [if_neg hk] at hg ⊢
    exact h k' w hg

/-- C04 as a refinement: whatever `get` returns is the value of the last accepted put for that id -/
theorem put_refines (prune : Store → Store) (hp : ∀ s, PruneOf s (prune s)) (s : Store) (spec : Spec)
    (k : Nat) (v : Val) (href : Refines s spec) :
    Refines (put prune s k v).1
      (if (put prune s k v).2 = .ok then (fun k' => if k' = k then some v else spec k') else spec) := by
  by_cases hlt : k < s.radius
  · rw [put_of_lt prune hlt, if_pos rfl]
    exact (added_refines href k v).of_kept (settle_kept hp _)
  · rw [put_of_not_lt prune hlt, if_neg nofun]
    exact href

#print axioms put_refines

/-- `Close` followed by `NewStorage` with capacity `cap`: items and counter come back from disk, the radius starts at the
    maximum, an over-capacity store is pruned, and above 95 % the radius is re-derived from the farthest key -/
def reopen (prune : Store → Store) (maxR : Nat) (s : Store) (cap : Nat) : Store :=
  let s0 : Store := { items := s.items, tracked := s.tracked, radius := maxR, cap := cap }
  let s1 := if s0.tracked > cap then prune s0 else s0
  if s.tracked > cap * 19 / 20 then
    match s1.items.getLast? with
    | some e => { s1 with radius := e.1 }
    | none => s1
  else s1

theorem reopen_items (prune : Store → Store) (maxR : Nat) (s : Store) (cap : Nat) :
    (reopen prune maxR s cap).items =
      (settle prune { items := s.items, tracked := s.tracked, radius := maxR, cap := cap }).items := by
  unfold reopen settle
  dsimp only
  generalize (if s.tracked > cap then prune _ else _ : Store) = s1
  split
  · split <;> rfl
  · rfl

/-- "across close and reopen": every id returns after the reopen what it returned before, or nothing (pruned on open) -/
theorem reopen_get (prune : Store → Store) (hp : ∀ s, PruneOf s (prune s)) (maxR : Nat) (s : Store) (cap : Nat) :
    Kept (reopen prune maxR s cap).items s.items := by
  rw [reopen_items]
  exact settle_kept hp _

inductive Op where
  | put (k : Nat) (v : Val)
  | reopen (cap : Nat)

def stepOp (prune : Store → Store) (maxR : Nat) (s : Store) : Op → Store × PutResult
  | .put k v => put prune s k v
  | .reopen cap => (reopen prune maxR s cap, .ok)

/-- the ghost map: an accepted put records its value, nothing else changes it -/
def specOp (prune : Store → Store) (s : Store) (sp : Spec) : Op → Spec
  | .put k v => if (put prune s k v).2 = .ok then (fun k' => if k' = k then some v else sp k') else sp
  | .reopen _ => sp

def runOps (prune : Store → Store) (maxR : Nat) : Store → Spec → List Op → Store × Spec
  | s, sp, [] => (s, sp)
  | s, sp, op :: ops => runOps prune maxR (stepOp prune maxR s op).1 (specOp prune s sp op) ops

#print axioms reopen_get
end Sv
