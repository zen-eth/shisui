import Shisui.Store.Basic
/-! C17: what is on disk after each committed batch, and `NewStorage` on such an image. A put commits {item, counter} in one
    batch; if that crosses the capacity, prune commits {deletes, counter} in a second, synced batch. A crash leaves the image
    after some prefix of the batches (pebble: atomic batches, WAL prefix). Ideal (big-endian) reading of the keys. -/
namespace St

structure Disk where
  items : List (Nat × Nat)
  counter : Nat
deriving Repr

def image (s : Store) : Disk := { items := s.items, counter := s.tracked }

/-- disk images produced, in order, by one put (`batchesOfPut_of_not_lt`, `batchesOfPut_of_lt` are the way in) -/
def batchesOfPut (s : Store) (k v : Nat) : List Disk :=
  if ¬ k < s.radius then []
  else
    let s1 : Store := { s with items := ins k v s.items, tracked := s.tracked + 32 + v }
    if s1.tracked > s1.cap then [image s1, image (prune s1)] else [image s1]

def DiskOk (d : Disk) : Prop := AllLt d.items ∧ held d.items ≤ d.counter ∧ ∀ e ∈ d.items, 0 < e.1

/-- all images along a history of puts -/
def images : Store → List (Nat × Nat) → List Disk
  | _, [] => []
  | s, (k, v) :: rest => batchesOfPut s k v ++ images (put s k v).1 rest

theorem image_ok (s : Store) (h : Inv s) : DiskOk (image s) :=
  ⟨h.asc, h.acct, fun e he => (h.within e he).1⟩

theorem batchesOfPut_of_not_lt {s : Store} {k : Nat} (h : ¬ k < s.radius) (v : Nat) : batchesOfPut s k v = [] :=
  if_pos h

theorem batchesOfPut_of_lt {s : Store} {k : Nat} (h : k < s.radius) (v : Nat) :
    batchesOfPut s k v =
      image (added s k v) :: if (added s k v).tracked > (added s k v).cap then [image (prune (added s k v))] else [] := by
  rw [batchesOfPut, if_neg (not_not_intro h)]
  show (if (added s k v).tracked > (added s k v).cap then _ else _) = _
  split <;> rfl

theorem batches_ok (s : Store) (k v : Nat) (hk : 0 < k) (h : Inv s) :
    ∀ d ∈ batchesOfPut s k v, DiskOk d := by
  by_cases hlt : k < s.radius
  · have h1 := added_inv hk hlt v h
    rw [batchesOfPut_of_lt hlt]
    refine List.forall_mem_cons.mpr ⟨image_ok _ h1, ?_⟩
    split
    · exact List.forall_mem_cons.mpr ⟨image_ok _ (prune_inv _ h1).1, fun _ hd => nomatch hd⟩
    · exact fun _ hd => nomatch hd
  · rw [batchesOfPut_of_not_lt hlt]; exact fun _ hd => nomatch hd

theorem getLast?_batchesOfPut {s : Store} {k : Nat} (h : k < s.radius) (v : Nat) :
    (batchesOfPut s k v).getLast? = some (image (put s k v).1) := by
  rw [put_of_lt h, batchesOfPut_of_lt h]
  by_cases ho : (added s k v).tracked > (added s k v).cap
  · rw [if_pos ho, settle_of_gt ho]
    rfl
  · rw [if_neg ho, settle_of_le (Nat.le_of_not_lt ho)]
    rfl

def maxRadius : Nat := 2 ^ 256 - 1

/-- `NewStorage` on an image: reload the counter, prune if over capacity, re-derive the radius from the farthest key
    when the reloaded counter exceeds 95 % of the capacity -/
def reopen (d : Disk) (cap : Nat) : Store :=
  let s0 : Store := { items := d.items, tracked := d.counter, radius := maxRadius, cap := cap }
  let s1 := if d.counter > cap then prune s0 else s0
  if d.counter > cap * 19 / 20 then
    match s1.items.getLast? with
    | some e => { s1 with radius := e.1 }
    | none => s1
  else s1

/-- the store `NewStorage` starts from: items and counter as found, the radius at its maximum -/
def load (d : Disk) (cap : Nat) : Store := { items := d.items, tracked := d.counter, radius := maxRadius, cap := cap }

def rederive (s : Store) : Store := { s with radius := farthest s.items s.radius }

theorem reopen_eq (d : Disk) (cap : Nat) :
    reopen d cap = if d.counter > cap * 19 / 20 then rederive (settle (load d cap)) else settle (load d cap) := by
  show (if d.counter > cap * 19 / 20 then
      match (settle (load d cap)).items.getLast? with
      | some e => { settle (load d cap) with radius := e.1 }
      | none => settle (load d cap)
    else settle (load d cap)) = _
  unfold rederive farthest
  cases (settle (load d cap)).items.getLast? <;> rfl

/-- 95 % of the capacity is within the capacity: a store over capacity also re-derives its radius -/
theorem mul_19_div_20_le (cap : Nat) : cap * 19 / 20 ≤ cap :=
  Nat.div_le_of_le_mul (Nat.mul_comm cap 19 ▸ Nat.mul_le_mul_right cap (by decide))

/-- the image's invariant is what `Inv` needs (keys are 32-byte values: below 2^256) -/
theorem load_inv {d : Disk} (h : DiskOk d) (hkeys : ∀ e ∈ d.items, e.1 ≤ maxRadius) (cap : Nat) : Inv (load d cap) :=
  ⟨h.1, fun e he => ⟨h.2.2 e he, hkeys e he⟩, h.2.1⟩

theorem rederive_items (s : Store) : (rederive s).items = s.items := rfl

theorem rederive_tracked (s : Store) : (rederive s).tracked = s.tracked := rfl

theorem rederive_radius (s : Store) : (rederive s).radius = farthest s.items s.radius := rfl

theorem rederive_inv {s : Store} (h : Inv s) : Inv (rederive s) :=
  ⟨h.asc, fun x hx => ⟨(h.within x hx).1, le_farthest h.asc _ x hx⟩, h.acct⟩

/-! The same steps with the records split, as the seeded changes lay them out (C17a / C17g: the item outside the batch of its
    size record; C17d: the size record of a pruning pass written on its own before the deletes). That some crash image then
    under-reports is `Props.C17.split_put_underreports` and `size_before_deletes_underreports`; the two examples here are the
    code's own layout on the same inputs. -/

/-- the item committed first, its size record in a later record -/
def batchesOfPutItemFirst (s : Store) (k v : Nat) : List Disk :=
  if ¬ k < s.radius then []
  else [{ items := ins k v s.items, counter := s.tracked }, { items := ins k v s.items, counter := s.tracked + 32 + v }]

/-- the reduced size record of a pruning pass written on its own before the batch of deletes -/
def batchesOfPutSizeBeforeDeletes (s : Store) (k v : Nat) : List Disk :=
  if ¬ k < s.radius then []
  else
    let s1 : Store := { s with items := ins k v s.items, tracked := s.tracked + 32 + v }
    if s1.tracked > s1.cap then [image s1, { items := s1.items, counter := (prune s1).tracked }, image (prune s1)] else [image s1]

def underReports (d : Disk) : Bool := decide (d.counter < held d.items)

/-- the layout of the code: no image of the same steps under-reports -/
example : (batchesOfPut (run (init 1000) [(5, 400), (9, 400), (7, 100)]) 3 50).any underReports = false := by decide
example : (batchesOfPut (init 1000) 5 400).any underReports = false := by decide

end St
