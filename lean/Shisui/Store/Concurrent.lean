/-! C05, schedules: puts as sequences of the atomic steps the code really has (storage/pebble/storage.go), interleaved by an
    explicit list of events. `Conc`: plain puts; `ConcP`: a put that prunes. -/

/-! Two puts, each `size.Add`, then the batch commit carrying the snapshot taken at the Add. The sequential invariant
    `persisted ≥ held` does not survive every interleaving — shown by an explicit schedule, which is the replay for the real
    store. -/
namespace Conc

structure Shared where
  tracked : Nat                       -- the atomic counter
  items : List (Nat × Nat)            -- committed (key, value length)
  persisted : Nat                     -- the counter record on disk
deriving DecidableEq, Repr

structure Thread where
  key : Nat
  len : Nat
  snap : Option Nat                   -- newSize computed at the Add, written at the commit
deriving DecidableEq, Repr

inductive Ev where
  | add (t : Nat)
  | commit (t : Nat)
deriving DecidableEq, Repr

def held (l : List (Nat × Nat)) : Nat := (l.map (fun e => 32 + e.2)).sum

def step (st : Shared × List Thread) : Ev → Shared × List Thread
  | .add t =>
    match st.2[t]? with
    | some th =>
      let n := st.1.tracked + 32 + th.len
      ({ st.1 with tracked := n }, st.2.set t { th with snap := some n })
    | none => st
  | .commit t =>
    match st.2[t]? with
    | some th =>
      match th.snap with
      | some n => ({ st.1 with items := (th.key, th.len) :: st.1.items, persisted := n }, st.2)
      | none => st
    | none => st

def run (evs : List Ev) (ths : List Thread) : Shared := (evs.foldl step ({ tracked := 0, items := [], persisted := 0 }, ths)).1

def twoPuts : List Thread := [{ key := 1, len := 1000, snap := none }, { key := 2, len := 5000, snap := none }]

/-- issued one after another the figure is right … -/
example : (run [.add 0, .commit 0, .add 1, .commit 1] twoPuts).persisted = held (run [.add 0, .commit 0, .add 1, .commit 1] twoPuts).items := by
  decide

/-- … but if the first put is overtaken between its Add and its commit, the persisted figure under-reports -/
theorem quirk_nonatomic_put_breaks_C05 :
    let r := run [.add 0, .add 1, .commit 1, .commit 0] twoPuts
    r.persisted = 1032 ∧ held r.items = 6064 ∧ r.persisted < held r.items := by
  decide

end Conc

/-! Schedules with a pruning put:
    `Put`:   `size.Add` (snapshot `newSize`)  ·  batch commit {item, SizeKey := newSize}
    `prune`: `size.Load`  ·  `size.Store(loaded - freed)`  ·  batch commit {deletes, SizeKey := loaded - freed}
             (the commit applies the batch and only then waits for the fsync of the write-ahead log)
    The model keeps three numbers: the in-memory counter, the bytes held, the persisted counter record. -/
namespace ConcP

structure Sh where
  tracked : Nat
  held : Nat
  persisted : Nat
deriving DecidableEq, Repr

structure Th where
  len : Nat                    -- bytes of the item of this put (id + value)
  freed : Nat                  -- bytes its pruning pass deletes, if it prunes
  snap : Nat := 0              -- newSize taken at the Add
  loaded : Nat := 0            -- what prune read from the counter
deriving DecidableEq, Repr

inductive Ev where
  | add (t : Nat) | commitItem (t : Nat) | pLoad (t : Nat) | pStore (t : Nat) | pCommit (t : Nat)
deriving DecidableEq, Repr

def step (st : Sh × List Th) : Ev → Sh × List Th
  | .add t => match st.2[t]? with
    | some th => let n := st.1.tracked + th.len
                 ({ st.1 with tracked := n }, st.2.set t { th with snap := n })
    | none => st
  | .commitItem t => match st.2[t]? with
    | some th => ({ st.1 with held := st.1.held + th.len, persisted := th.snap }, st.2)
    | none => st
  | .pLoad t => match st.2[t]? with
    | some th => (st.1, st.2.set t { th with loaded := st.1.tracked })
    | none => st
  | .pStore t => match st.2[t]? with
    | some th => ({ st.1 with tracked := th.loaded - th.freed }, st.2)
    | none => st
  | .pCommit t => match st.2[t]? with
    | some th => ({ st.1 with held := st.1.held - th.freed, persisted := th.loaded - th.freed }, st.2)
    | none => st

def run (s : Sh) (ths : List Th) (evs : List Ev) : Sh := (evs.foldl step (s, ths)).1

/-- the order of one pruning put in the code -/
def today (t : Nat) : List Ev := [.add t, .commitItem t, .pLoad t, .pStore t, .pCommit t]
/-- the order with the `Store` moved behind the commit (seeded change C05d) -/
def storeAfterCommit (t : Nat) : List Ev := [.add t, .commitItem t, .pLoad t, .pCommit t, .pStore t]

/-- the atomic-section view: what a lock around Add..commit and Load..commit would give -/
inductive G where
  | put (len : Nat)
  | prune (freed : Nat)
deriving Repr

def gstep (s : Sh) : G → Sh
  | .put len => let n := s.tracked + len; { tracked := n, held := s.held + len, persisted := n }
  | .prune f => if f ≤ s.held then (let n := s.tracked - f; { tracked := n, held := s.held - f, persisted := n }) else s

def Inv (s : Sh) : Prop := s.tracked = s.held ∧ s.persisted = s.held
instance (s : Sh) : Decidable (Inv s) := by unfold Inv; exact inferInstance

theorem gstep_inv (s : Sh) (g : G) (h : Inv s) : Inv (gstep s g) := by
  cases g with
  | put len => exact ⟨congrArg (· + len) h.1, congrArg (· + len) h.1⟩
  | prune f =>
    show Inv (if f ≤ s.held then _ else s)
    split
    · exact ⟨congrArg (· - f) h.1, congrArg (· - f) h.1⟩
    · exact h

/-- put B while put A waits in the fsync of its pruning batch, in the order the code has (the sizes of the forced schedule; B
    does not even need to prune): nothing is lost. With the Store behind the commit B's bytes are: `Props.C05.store_after_commit_underreports`. -/
example :
    let a : Th := { len := 10032, freed := 50160 }
    let b : Th := { len := 10032, freed := 0 }
    let s : Sh := { tracked := 993168, held := 993168, persisted := 993168 }
    Inv (run s [a, b] (today 0 ++ [.add 1, .commitItem 1])) := by
  decide

end ConcP
