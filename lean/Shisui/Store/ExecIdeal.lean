import Shisui.Store.Exec
/-! With the byte-order switch off (`le = false`), `put` and `prune` of the executable store model are those of the model the
    theorems of `Shisui/Store/Basic.lean` are about: forgetting the value digests and the little-endian readings commutes
    with them. Nothing is proved about `StX.get` and `StX.reopen`. -/
namespace StX

def pr (e : Item) : Nat × Nat := (e.be, e.len)
def proj (s : Store) : St.Store := { items := s.items.map pr, tracked := s.tracked, radius := s.radius, cap := s.cap }

/-- both inserts take the same branch (case1 the empty list, case2 before the head, case3 overwrite, case4 further down) -/
theorem proj_ins (x : Item) (l : List Item) : (ins x l).map pr = St.ins x.be x.len (l.map pr) := by
  fun_induction ins x l with
  | case1 => rfl
  | case2 y rest h => exact (if_pos h).symm
  | case3 y rest h1 h2 => exact ((if_neg h1).trans (if_pos h2)).symm
  | case4 y rest h1 h2 ih => exact ((if_neg h1).trans ((if_neg h2).trans (congrArg (pr y :: ·) ih.symm))).symm

theorem proj_pruneLoop (expect : Nat) (l : List Item) (freed : Nat) :
    ((pruneLoop false expect l freed).1.map pr, (pruneLoop false expect l freed).2.1, (pruneLoop false expect l freed).2.2)
      = St.pruneLoop expect (l.map pr) freed := by
  fun_induction pruneLoop false expect l freed with
  | case1 => rfl
  | case2 e rest freed h ih => exact ih.trans (if_pos h).symm
  | case3 e rest freed h => exact (if_neg h).symm

theorem proj_prune (s : Store) : proj (prune false s) = St.prune (proj s) := by
  have h := proj_pruneLoop (s.cap / 20) s.items.reverse 0
  rw [List.map_reverse] at h
  -- `St.prune (proj s)` matches on the right side of `h`; with the triple of the left side in its place the match computes
  simp only [proj, prune, St.prune, ← h, List.map_reverse]

theorem proj_settle (s : Store) : proj (if s.tracked > s.cap then prune false s else s) = St.settle (proj s) := by
  show _ = if s.tracked > s.cap then _ else _
  split
  · exact proj_prune s
  · rfl

theorem proj_added (s : Store) (x : Item) :
    proj { s with items := ins x s.items, tracked := s.tracked + 32 + x.len } = St.added (proj s) x.be x.len := by
  rw [proj, proj_ins]
  rfl

theorem exec_ideal_put (s : Store) (x : Item) :
    proj (put false s x).1 = (St.put (proj s) x.be x.len).1 ∧
    ((put false s x).2 = .insufficientRadius ↔ (St.put (proj s) x.be x.len).2 = .insufficientRadius) := by
  by_cases hlt : dist false x < s.radius
  · rw [St.put_of_lt (s := proj s) (k := x.be) hlt, put, if_neg (not_not_intro hlt)]
    exact ⟨(proj_settle _).trans (congrArg St.settle (proj_added s x)), iff_of_false nofun nofun⟩
  · rw [St.put_of_not_lt (s := proj s) (k := x.be) hlt, put, if_pos hlt]
    exact ⟨rfl, iff_of_true rfl rfl⟩

#print axioms exec_ideal_put
end StX
