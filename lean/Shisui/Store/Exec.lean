import Shisui.Store.Basic
/-! Executable store model used by the driver (C04/C05/C06/C17): `storage/pebble/storage.go` with values,
    with the byte order in which the three distance sites read a key as a switch
    (`le = true`: `uint256.UnmarshalSSZ`, little-endian, as implemented; `le = false`: big-endian = pebble's order; with it
    `put` and `prune` are those of the ideal model the theorems of `Shisui/Store/Basic.lean` are about — `exec_ideal_put`,
    `proj_prune`; `get` and `reopen` have no such lemma). -/
namespace StX

structure Item where
  be : Nat            -- key bytes read big-endian (pebble's bytewise order on 32-byte keys)
  le : Nat            -- the same bytes read little-endian
  len : Nat           -- value length
  val : UInt64        -- digest of the value (values are immutable in the model)
deriving Repr, BEq

structure Store where
  items : List Item        -- ascending by `be`
  tracked : Nat
  radius : Nat
  cap : Nat
deriving Repr

def maxRadius : Nat := 2 ^ 256 - 1

def ins (x : Item) : List Item → List Item
  | [] => [x]
  | y :: rest => if x.be < y.be then x :: y :: rest else if x.be = y.be then x :: rest else y :: ins x rest

def dist (le : Bool) (x : Item) : Nat := if le then x.le else x.be

def sz (e : Item) : Nat := 32 + e.len
def held (l : List Item) : Nat := (l.map sz).sum

/-- the loop of `prune()` over the keys in descending `be` order -/
def pruneLoop (le : Bool) (expect : Nat) : List Item → Nat → List Item × Nat × Option Nat
  | [], freed => ([], freed, none)
  | e :: rest, freed =>
    if freed < expect then pruneLoop le expect rest (freed + sz e) else (e :: rest, freed, some (dist le e))

def prune (le : Bool) (s : Store) : Store :=
  let r := pruneLoop le (s.cap / 20) s.items.reverse 0
  { s with items := r.1.reverse, tracked := s.tracked - r.2.1, radius := r.2.2.getD s.radius }

inductive PutResult | ok | insufficientRadius
deriving Repr, DecidableEq

def put (le : Bool) (s : Store) (x : Item) : Store × PutResult :=
  if ¬ dist le x < s.radius then (s, .insufficientRadius)
  else
    let s1 := { s with items := ins x s.items, tracked := s.tracked + 32 + x.len }
    (if s1.tracked > s1.cap then prune le s1 else s1, .ok)

def get (s : Store) (be : Nat) : Option Item := s.items.find? (·.be == be)

/-- `NewStorage` on an existing database image: reload the counter, prune if over capacity, re-derive the radius
    from the farthest key when the *reloaded* counter exceeds 95 % of the capacity -/
def reopen (le : Bool) (items : List Item) (counter cap : Nat) : Store :=
  let s0 : Store := { items := items, tracked := counter, radius := maxRadius, cap := cap }
  let s1 := if counter > cap then prune le s0 else s0
  if counter > cap * 19 / 20 then
    match s1.items.getLast? with
    | some e => { s1 with radius := dist le e }
    | none => s1
  else s1

def empty (cap : Nat) : Store := { items := [], tracked := 0, radius := maxRadius, cap := cap }

end StX
