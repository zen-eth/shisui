/-! The pebble content store (`storage/pebble/storage.go`) with value lengths in place of values, ideal (big-endian) metric:
    the model of C05/C06/C17, its invariant, and what holds along every history of puts.
    Keys are the big-endian value of xor(contentId,nodeId); key 0 is the reserved counter key. -/
namespace St

structure Store where
  items : List (Nat × Nat)     -- (key, value length), strictly ascending by key
  tracked : Nat
  radius : Nat
  cap : Nat
deriving Repr

-- 32 = `len(contentId)`: `Put` adds `len(contentId) + len(content)` to the counter, `prune` takes off key + value length
def sz (e : Nat × Nat) : Nat := 32 + e.2
def held (l : List (Nat × Nat)) : Nat := (l.map sz).sum

/-- insert or overwrite, keeping ascending order -/
def ins (k v : Nat) : List (Nat × Nat) → List (Nat × Nat)
  | [] => [(k, v)]
  | (k', v') :: rest =>
    if k < k' then (k, v) :: (k', v') :: rest
    else if k = k' then (k, v) :: rest
    else (k', v') :: ins k v rest

/-- the loop of `prune()` over the keys in descending order -/
def pruneLoop (expect : Nat) : List (Nat × Nat) → Nat → List (Nat × Nat) × Nat × Option Nat
  | [], freed => ([], freed, none)
  | e :: rest, freed =>
    if freed < expect then pruneLoop expect rest (freed + sz e) else (e :: rest, freed, some e.1)

-- Go returns "prune error, size < currentSize" and commits nothing where the subtraction here truncates; under `Inv.acct` the
-- bytes freed are within the counter and the case does not arise
def prune (s : Store) : Store :=
  let (keptRev, freed, nr) := pruneLoop (s.cap / 20) s.items.reverse 0
  { s with items := keptRev.reverse, tracked := s.tracked - freed, radius := nr.getD s.radius }

inductive PutResult | ok | insufficientRadius
deriving Repr, DecidableEq

-- the two halves have names further down: `put_of_not_lt` (refused) and `put_of_lt` (`settle (added s k v)`) are the way in
def put (s : Store) (k v : Nat) : Store × PutResult :=
  if ¬ k < s.radius then (s, .insufficientRadius)
  else
    let s1 := { s with items := ins k v s.items, tracked := s.tracked + 32 + v }
    (if s1.tracked > s1.cap then prune s1 else s1, .ok)

def Asc : List (Nat × Nat) → Prop
  | [] => True
  | [_] => True
  | a :: b :: rest => a.1 < b.1 ∧ Asc (b :: rest)

def Desc : List (Nat × Nat) → Prop
  | [] => True
  | [_] => True
  | a :: b :: rest => b.1 < a.1 ∧ Desc (b :: rest)

def AllLt (l : List (Nat × Nat)) : Prop := l.Pairwise (fun a b => a.1 < b.1)

structure Inv (s : Store) : Prop where
  asc : AllLt s.items
  within : ∀ e ∈ s.items, 0 < e.1 ∧ e.1 ≤ s.radius
  acct : held s.items ≤ s.tracked

theorem held_cons (e : Nat × Nat) (l : List (Nat × Nat)) : held (e :: l) = sz e + held l :=
  List.sum_cons

theorem held_append (a b : List (Nat × Nat)) : held (a ++ b) = held a + held b := by
  simp [held, List.sum_append]

theorem held_reverse (a : List (Nat × Nat)) : held a.reverse = held a := by
  simp [held, List.sum_reverse]

theorem forall_mem_ins {P : Nat × Nat → Prop} {k v : Nat} {l : List (Nat × Nat)} (hk : P (k, v)) (hl : ∀ e ∈ l, P e) :
    ∀ e ∈ ins k v l, P e := by
  -- the leaves of `ins`: case1 the empty list, case2 `k` before the head, case3 `k` overwrites the head, case4 further down
  fun_induction ins k v l with
  | case1 => exact List.forall_mem_cons.mpr ⟨hk, hl⟩
  | case2 => exact List.forall_mem_cons.mpr ⟨hk, hl⟩
  | case3 => exact List.forall_mem_cons.mpr ⟨hk, (List.forall_mem_cons.mp hl).2⟩
  | case4 _ _ _ _ _ ih =>
    have ⟨hx, hxs⟩ := List.forall_mem_cons.mp hl
    exact List.forall_mem_cons.mpr ⟨hx, ih hxs⟩

theorem ins_allLt (k v : Nat) (l : List (Nat × Nat)) (h : AllLt l) : AllLt (ins k v l) := by
  unfold AllLt at *
  fun_induction ins k v l with
  | case1 => exact List.pairwise_singleton ..
  | case2 k' v' rest hlt =>
    have hx := List.pairwise_cons.mp h
    exact List.pairwise_cons.mpr ⟨List.forall_mem_cons.mpr ⟨hlt, fun b hb => Nat.lt_trans hlt (hx.1 b hb)⟩, h⟩
  | case3 => exact List.pairwise_cons.mpr (List.pairwise_cons.mp h)
  | case4 k' v' rest hlt hne ih =>
    have hx := List.pairwise_cons.mp h
    have hk : k' < k := Nat.lt_of_le_of_ne (Nat.le_of_not_lt hlt) (Ne.symm hne)
    exact List.pairwise_cons.mpr ⟨forall_mem_ins hk hx.1, ih hx.2⟩

/-- an insert adds at most the size of the new item (an overwrite less: the old value goes) -/
theorem ins_held (k v : Nat) (l : List (Nat × Nat)) : held (ins k v l) ≤ held l + sz (k, v) := by
  fun_induction ins k v l with
  | case1 => exact Nat.le_of_eq (Nat.add_comm ..)
  | case2 => exact Nat.le_of_eq (Nat.add_comm ..)
  | case3 => exact Nat.le_trans (Nat.le_of_eq (Nat.add_comm ..)) (Nat.add_le_add_right (Nat.le_add_left ..) _)
  | case4 _ _ _ _ _ ih => rw [held_cons, held_cons, Nat.add_assoc]; exact Nat.add_le_add_left ih _

/-- the key of the last (farthest) item of an ascending list, `r` if there is none: what `prune` and `NewStorage` set the
    radius to -/
def farthest (l : List (Nat × Nat)) (r : Nat) : Nat := (l.getLast?.map (·.1)).getD r

theorem farthest_of_getLast? {l : List (Nat × Nat)} {e : Nat × Nat} (h : l.getLast? = some e) (r : Nat) :
    farthest l r = e.1 := by
  rw [farthest, h]
  rfl

theorem le_farthest {l : List (Nat × Nat)} (h : AllLt l) (r : Nat) : ∀ x ∈ l, x.1 ≤ farthest l r := by
  intro x hx
  obtain ⟨ys, e, rfl⟩ : ∃ ys e, l = ys ++ [e] :=
    ⟨l.dropLast, l.getLast (List.ne_nil_of_mem hx), (List.dropLast_concat_getLast _).symm⟩
  rw [farthest_of_getLast? List.getLast?_concat]
  rcases List.mem_append.mp hx with hx | hx
  · exact Nat.le_of_lt ((List.pairwise_append.mp h).2.2 x hx e (List.mem_singleton_self e))
  · rw [List.mem_singleton.mp hx]; exact Nat.le_refl _

theorem farthest_le {l : List (Nat × Nat)} {r : Nat} (h : ∀ x ∈ l, x.1 ≤ r) : farthest l r ≤ r := by
  unfold farthest
  cases hl : l.getLast? with
  | none => exact Nat.le_refl r
  | some e => exact h e (List.mem_of_getLast? hl)

theorem pruneLoop_spec (expect : Nat) (l : List (Nat × Nat)) (freed : Nat) :
    ∃ dropped, l = dropped ++ (pruneLoop expect l freed).1 ∧
      (pruneLoop expect l freed).2.1 = freed + held dropped ∧
      ((pruneLoop expect l freed).1 = [] ∨ expect ≤ (pruneLoop expect l freed).2.1) ∧
      (pruneLoop expect l freed).2.2 = (pruneLoop expect l freed).1.head?.map (·.1) := by
  -- case1 nothing left, case2 still below `expect`: the head goes, case3 `expect` reached: the loop stops
  fun_induction pruneLoop expect l freed with
  | case1 => exact ⟨[], rfl, rfl, .inl rfl, rfl⟩
  | case2 e rest freed _ ih =>
    obtain ⟨d, h1, h2, h3⟩ := ih
    exact ⟨e :: d, congrArg (e :: ·) h1, by rw [h2, held_cons, Nat.add_assoc], h3⟩
  | case3 e rest freed h => exact ⟨[], rfl, rfl, .inr (Nat.le_of_not_lt h), rfl⟩

/-- `prune` read off the ascending list, which the loop walks from its far end -/
theorem prune_spec (s : Store) :
    ∃ dropped, s.items = (prune s).items ++ dropped ∧ (prune s).tracked = s.tracked - held dropped ∧
      ((prune s).items = [] ∨ s.cap / 20 ≤ held dropped) ∧
      (prune s).radius = farthest (prune s).items s.radius := by
  obtain ⟨d, h1, h2, h3, h4⟩ := pruneLoop_spec (s.cap / 20) s.items.reverse 0
  rw [Nat.zero_add] at h2
  simp only [prune]
  refine ⟨d.reverse, ?_, ?_, ?_, ?_⟩
  · rw [← List.reverse_append, ← h1, List.reverse_reverse]
  · rw [h2, held_reverse]
  · rw [held_reverse, ← h2]
    exact h3.imp_left (congrArg List.reverse)
  · rw [farthest, h4, List.getLast?_reverse]

/-- C05: a pruning pass frees at least 5 % of the capacity, or everything it holds -/
theorem prune_frees (s : Store) (h : Inv s) :
    (prune s).items = [] ∨ s.cap / 20 ≤ s.tracked - (prune s).tracked := by
  obtain ⟨dropped, hi, ht, hf, -⟩ := prune_spec s
  refine hf.imp_right fun hf => ?_
  have hd : held dropped ≤ s.tracked := by
    have := h.acct
    rw [hi, held_append] at this
    exact Nat.le_trans (Nat.le_add_left ..) this
  rwa [ht, Nat.sub_sub_self hd]

theorem prune_inv (s : Store) (h : Inv s) : Inv (prune s) ∧ (prune s).radius ≤ s.radius := by
  obtain ⟨d, hi, ht, -, hr⟩ := prune_spec s
  have hasc := (List.pairwise_append.mp (hi ▸ h.asc)).1
  have hin : ∀ x ∈ (prune s).items, 0 < x.1 ∧ x.1 ≤ s.radius := fun x hx =>
    h.within x (hi ▸ List.mem_append_left d hx)
  have hacct := h.acct
  rw [hi, held_append] at hacct
  refine ⟨⟨hasc, fun x hx => ⟨(hin x hx).1, ?_⟩, ht ▸ Nat.le_sub_of_add_le hacct⟩, ?_⟩
  · rw [hr]; exact le_farthest hasc _ x hx
  · rw [hr]; exact farthest_le fun x hx => (hin x hx).2

/-- the store after the insert of an admitted put, before any pruning -/
def added (s : Store) (k v : Nat) : Store := { s with items := ins k v s.items, tracked := s.tracked + 32 + v }

/-- prune when the counter is over the capacity (in `Put`, and in `NewStorage`) -/
def settle (s : Store) : Store := if s.tracked > s.cap then prune s else s

theorem settle_of_gt {s : Store} (h : s.tracked > s.cap) : settle s = prune s := if_pos h

theorem settle_of_le {s : Store} (h : s.tracked ≤ s.cap) : settle s = s := if_neg (Nat.not_lt.mpr h)

theorem put_of_lt {s : Store} {k : Nat} (h : k < s.radius) (v : Nat) : put s k v = (settle (added s k v), .ok) :=
  if_neg (not_not_intro h)

theorem put_of_not_lt {s : Store} {k : Nat} (h : ¬ k < s.radius) (v : Nat) : put s k v = (s, .insufficientRadius) :=
  if_pos h

theorem added_inv {s : Store} {k : Nat} (hk : 0 < k) (hlt : k < s.radius) (v : Nat) (h : Inv s) : Inv (added s k v) :=
  ⟨ins_allLt k v s.items h.asc, forall_mem_ins ⟨hk, Nat.le_of_lt hlt⟩ h.within,
   Nat.le_trans (ins_held k v s.items)
     (Nat.le_trans (Nat.add_le_add_right h.acct (32 + v)) (Nat.le_of_eq (Nat.add_assoc ..).symm))⟩

theorem settle_inv {s : Store} (h : Inv s) : Inv (settle s) ∧ (settle s).radius ≤ s.radius := by
  unfold settle
  split
  · exact prune_inv s h
  · exact ⟨h, Nat.le_refl _⟩

theorem settle_cap (s : Store) : (settle s).cap = s.cap := by
  unfold settle
  split <;> rfl

/-- a store at most 5 % over its capacity is within it once settled: either the counter (which is not below the bytes held)
    is within the capacity, or the pruning pass frees 5 %, or everything -/
theorem settle_bounded {s : Store} (h : Inv s) (hb : held s.items ≤ s.cap + s.cap / 20) :
    held (settle s).items ≤ s.cap := by
  unfold settle
  split
  · obtain ⟨d, hi, -, hf, -⟩ := prune_spec s
    rcases hf with he | hf
    · rw [he]; exact Nat.zero_le _
    · rw [hi, held_append] at hb
      exact Nat.le_of_add_le_add_right (Nat.le_trans hb (Nat.add_le_add_left hf _))
  · exact Nat.le_trans h.acct (Nat.le_of_not_lt ‹_›)

theorem put_inv (s : Store) (k v : Nat) (hk : 0 < k) (h : Inv s) :
    Inv (put s k v).1 ∧ (put s k v).1.radius ≤ s.radius := by
  by_cases hlt : k < s.radius
  · rw [put_of_lt hlt]; exact settle_inv (added_inv hk hlt v h)
  · rw [put_of_not_lt hlt]; exact ⟨h, Nat.le_refl _⟩

theorem put_cap (s : Store) (k v : Nat) : (put s k v).1.cap = s.cap := by
  by_cases hlt : k < s.radius
  · rw [put_of_lt hlt]; exact settle_cap _
  · rw [put_of_not_lt hlt]

theorem put_bounded (s : Store) (k v : Nat) (hk : 0 < k) (h : Inv s)
    (hcap : held s.items ≤ s.cap) (hitem : 32 + v ≤ s.cap / 20) : held (put s k v).1.items ≤ s.cap := by
  by_cases hlt : k < s.radius
  · rw [put_of_lt hlt]
    exact settle_bounded (added_inv hk hlt v h) (Nat.le_trans (ins_held k v s.items) (Nat.add_le_add hcap hitem))
  · rw [put_of_not_lt hlt]; exact hcap

def init (cap : Nat) : Store := { items := [], tracked := 0, radius := 2 ^ 256 - 1, cap := cap }

theorem init_inv (cap : Nat) : Inv (init cap) :=
  ⟨List.Pairwise.nil, fun _ he => (nomatch he), Nat.le_refl 0⟩

/-- the store after a history of puts (key, value length) -/
def run (s : Store) : List (Nat × Nat) → Store
  | [] => s
  | op :: ops => run (put s op.1 op.2).1 ops

theorem run_inv (ops : List (Nat × Nat)) : ∀ (s : Store), (∀ op ∈ ops, 0 < op.1) → Inv s →
    Inv (run s ops) ∧ (run s ops).radius ≤ s.radius ∧ (run s ops).cap = s.cap := by
  induction ops with
  | nil => exact fun s _ h => ⟨h, Nat.le_refl _, rfl⟩
  | cons op ops ih =>
    intro s hk h
    have ⟨hop, hops⟩ := List.forall_mem_cons.mp hk
    have h1 := put_inv s op.1 op.2 hop h
    have h2 := ih _ hops h1.1
    exact ⟨h2.1, Nat.le_trans h2.2.1 h1.2, h2.2.2.trans (put_cap ..)⟩

theorem run_bounded (ops : List (Nat × Nat)) : ∀ (s : Store), (∀ op ∈ ops, 0 < op.1 ∧ 32 + op.2 ≤ s.cap / 20) → Inv s →
    held s.items ≤ s.cap → held (run s ops).items ≤ s.cap := by
  induction ops with
  | nil => exact fun s _ _ h => h
  | cons op ops ih =>
    intro s hk h hc
    have ⟨hop, hops⟩ := List.forall_mem_cons.mp hk
    have hc' := put_bounded s op.1 op.2 hop.1 h hc hop.2
    rw [← put_cap s op.1 op.2] at hops hc' ⊢
    exact ih _ hops (put_inv s op.1 op.2 hop.1 h).1 hc'

#print axioms put_inv
#print axioms prune_frees
#print axioms put_bounded

end St
