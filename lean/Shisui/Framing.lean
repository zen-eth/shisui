import Shisui.Varint
/-! C15: the content framing of uTP streams. An item is its varint length followed by its bytes (`encode/decodeSingleContent`,
    common.go); a stream is items back to back, read until no byte is left (`encode/decodeContents`); a FINDCONTENT transfer
    is one item under protocol version 1 and the bare bytes otherwise (`encode/decodeUtpContent`, portal_protocol_v1.go). -/
namespace Fr

def encSingle (x : List Nat) : List Nat := enc x.length ++ x

/-- `decodeSingleContent` -/
def decSingle (data : List Nat) : Option (List Nat × List Nat) :=
  match dec data with
  | none => none
  | some (len, hdr) =>
    if data.length < hdr + len then none
    else some ((data.drop hdr).take len, data.drop (hdr + len))

theorem encSingle_ne_nil (x : List Nat) : encSingle x ≠ [] :=
  List.append_ne_nil_of_left_ne_nil (enc_ne_nil _) x

theorem decSingle_of_dec_none {data : List Nat} (h : dec data = none) : decSingle data = none := by
  rw [decSingle, h]

theorem decSingle_of_dec {data : List Nat} {len hdr : Nat} (h : dec data = some (len, hdr)) :
    decSingle data =
      if data.length < hdr + len then none else some ((data.drop hdr).take len, data.drop (hdr + len)) := by
  rw [decSingle, h]

/-- a length prefix that exceeds the remaining bytes is rejected -/
theorem overlong_prefix_rejected (data : List Nat) (len hdr : Nat) (hd : dec data = some (len, hdr))
    (hlong : data.length < hdr + len) : decSingle data = none := by
  rw [decSingle_of_dec hd, if_pos hlong]

theorem decSingle_enc (x rest : List Nat) (h : x.length < 2 ^ 32) :
    decSingle (encSingle x ++ rest) = some (x, rest) := by
  rw [encSingle, List.append_assoc, decSingle_of_dec (dec_enc _ _ h), if_neg (by simp), List.drop_left,
    List.take_left, ← List.length_append, ← List.append_assoc, List.drop_left]

theorem decSingle_eq_some {data x rest : List Nat} (h : decSingle data = some (x, rest)) :
    ∃ len hdr, dec data = some (len, hdr) ∧ hdr + len ≤ data.length ∧
      x = (data.drop hdr).take len ∧ rest = data.drop (hdr + len) := by
  cases hd : dec data with
  | none => rw [decSingle_of_dec_none hd] at h; cases h
  | some r =>
    rw [decSingle_of_dec hd] at h
    split at h
    · cases h
    · cases h; exact ⟨_, _, rfl, Nat.not_lt.mp ‹_›, rfl, rfl⟩

theorem decSingle_shrinks (data x rest : List Nat) (h : decSingle data = some (x, rest)) :
    rest.length < data.length := by
  obtain ⟨len, hdr, hd, hle, -, rfl⟩ := decSingle_eq_some h
  have hpos : 0 < hdr + len := Nat.add_pos_left (dec_read hd).1 len
  rw [List.length_drop]
  exact Nat.sub_lt (Nat.lt_of_lt_of_le hpos hle) hpos

theorem cut_append {α : Type} {p q a b : List α} (h : p ++ q = a ++ b) :
    (∃ c cs, a = p ++ c :: cs) ∨ ∃ p', p = a ++ p' ∧ b = p' ++ q := by
  rcases List.append_eq_append_iff.mp h with ⟨_ | ⟨c, cs⟩, ha, hb⟩ | hp
  · exact .inr ⟨[], by rw [ha, List.append_nil, List.append_nil], hb.symm⟩
  · exact .inl ⟨c, cs, ha⟩
  · exact .inr hp

theorem decSingle_cut {x p q : List Nat} (hx : x.length < 2 ^ 32) (hpq : p ++ q = encSingle x) (hq : q ≠ []) :
    decSingle p = none := by
  rcases cut_append hpq with ⟨c, cs, hp⟩ | ⟨y, hp, hy⟩
  · exact decSingle_of_dec_none (decAux_cut (List.cons_ne_nil c cs) hp.symm)
  · -- the prefix decodes and promises more bytes than are left
    have hlen : y.length < x.length := by
      rw [hy, List.length_append]
      exact Nat.lt_add_of_pos_right (List.length_pos_iff.mpr hq)
    rw [hp, decSingle_of_dec (dec_enc _ y hx), List.length_append, if_pos (Nat.add_lt_add_left hlen _)]

def encContents : List (List Nat) → List Nat
  | [] => []
  | x :: xs => encSingle x ++ encContents xs

/-- `decodeContents` -/
def decContents (data : List Nat) : Option (List (List Nat)) :=
  if h0 : data = [] then some []
  else
    match h : decSingle data with
    | none => none
    | some (x, rest) => (decContents rest).map (x :: ·)
termination_by data.length
decreasing_by exact decSingle_shrinks data x rest h

/-- size of the joined stream of items with these lengths: what the driver compares where the items are too large to spell
    out (2^28 bytes and more, where the length prefix takes its fifth byte) -/
def streamLen : List Nat → Nat
  | [] => 0
  | n :: ns => lebLen n + n + streamLen ns

theorem decContents_nil : decContents [] = some [] := by rw [decContents, dif_pos rfl]

/-- `decContents` unfolded, without the equation its termination proof carries along -/
theorem decContents_eq {data : List Nat} (hne : data ≠ []) :
    decContents data = match decSingle data with
      | none => none
      | some (x, rest) => (decContents rest).map (x :: ·) := by
  rw [decContents, dif_neg hne]
  split <;> rename_i hs <;> rw [hs]

theorem decContents_of_none {data : List Nat} (hne : data ≠ []) (h : decSingle data = none) :
    decContents data = none := by
  rw [decContents_eq hne, h]

theorem decContents_encSingle_append (x rest : List Nat) (h : x.length < 2 ^ 32) :
    decContents (encSingle x ++ rest) = (decContents rest).map (x :: ·) := by
  rw [decContents_eq (List.append_ne_nil_of_left_ne_nil (encSingle_ne_nil x) rest), decSingle_enc x rest h]

/-- C15: splitting inverts joining, for every list of byte strings (empty items included) -/
theorem contents_roundtrip (xs : List (List Nat)) (h : ∀ x ∈ xs, x.length < 2 ^ 32) :
    decContents (encContents xs) = some xs := by
  induction xs with
  | nil => exact decContents_nil
  | cons x xs ih =>
    rw [encContents, decContents_encSingle_append x _ (h x (List.mem_cons_self ..)),
      ih fun z hz => h z (List.mem_cons_of_mem _ hz)]
    rfl

/-- C15: a truncated stream is rejected or yields a prefix of the items — it is never split differently -/
theorem prefix_never_resplits (xs : List (List Nat)) (h : ∀ x ∈ xs, x.length < 2 ^ 32) :
    ∀ p t, p ++ t = encContents xs → decContents p = none ∨ ∃ k, decContents p = some (xs.take k) := by
  induction xs with
  | nil =>
    intro p t hp
    rw [(List.append_eq_nil_iff.mp hp).1]
    exact .inr ⟨0, decContents_nil⟩
  | cons x xs ih =>
    intro p t hp
    have hx := h x (List.mem_cons_self ..)
    rcases cut_append hp with ⟨c, cs, hc⟩ | ⟨p', hp', ht⟩
    · -- p ends inside the first item
      by_cases hp0 : p = []
      · exact .inr ⟨0, hp0 ▸ decContents_nil⟩
      · exact .inl (decContents_of_none hp0 (decSingle_cut hx hc.symm (List.cons_ne_nil c cs)))
    · -- p holds the first item whole: the rest of p is a truncation of the other items
      rw [hp', decContents_encSingle_append x p' hx]
      rcases ih (fun z hz => h z (List.mem_cons_of_mem _ hz)) p' t ht.symm with hn | ⟨k, hk⟩
      · exact .inl (by rw [hn]; rfl)
      · exact .inr ⟨k + 1, by rw [hk]; rfl⟩

/-- the joined stream is exactly as long as its prefixes and items together -/
theorem encContents_length (xs : List (List Nat)) : (encContents xs).length = streamLen (xs.map List.length) := by
  induction xs with
  | nil => rfl
  | cons x xs ih => rw [encContents, encSingle, List.length_append, List.length_append, ih]; rfl

/-- `encodeUtpContent`: version 1 adds one length prefix, every other version passes the bytes through -/
def utpEnc (v : Nat) (d : List Nat) : List Nat := if v = 1 then encSingle d else d

/-- `decodeUtpContent`: version 1 strips the prefix and rejects trailing bytes -/
def utpDec (v : Nat) (d : List Nat) : Option (List Nat) :=
  if v = 1 then
    match decSingle d with
    | some (c, []) => some c
    | _ => none
  else some d

theorem utp_roundtrip (v : Nat) (d : List Nat) (h : d.length < 2 ^ 32) : utpDec v (utpEnc v d) = some d := by
  unfold utpDec utpEnc
  split
  · have := decSingle_enc d [] h
    rw [List.append_nil] at this
    rw [this]
  · rfl

/-- C15 "a single-item stream is accepted only if its prefix covers exactly the remaining bytes" -/
theorem single_exact (s c : List Nat) (h : utpDec 1 s = some c) :
    ∃ len hdr, dec s = some (len, hdr) ∧ len = c.length ∧ s.length = hdr + len ∧ s.drop hdr = c := by
  rw [utpDec, if_pos rfl] at h
  split at h
  · cases h
    rename_i hs
    obtain ⟨len, hdr, hd, hle, rfl, hnil⟩ := decSingle_eq_some hs
    -- nothing is left after the item, so the item is all of `s` behind the prefix
    have hl : s.length = hdr + len := Nat.le_antisymm (List.drop_eq_nil_iff.mp hnil.symm) hle
    have hk : (s.drop hdr).length = len := by rw [List.length_drop, hl, Nat.add_sub_cancel_left]
    rw [List.take_of_length_le (Nat.le_of_eq hk)]
    exact ⟨len, hdr, hd, hk.symm, hl, rfl⟩
  · cases h

#print axioms contents_roundtrip
#print axioms prefix_never_resplits
#print axioms encContents_length
end Fr
