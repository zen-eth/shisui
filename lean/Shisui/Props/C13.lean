import Shisui.Trie.ValidateThm
/-! # C13 — State content is accepted only with a hash-linked proof down to the state root

Model (`Shisui/Trie/Validate.lean`, namespace `Spv`): `validateContent` = `StateValidator.ValidateContent` with its
three per-type validators, `validateTrieProof`, `validateNode` = `validateNodeTrieProof`, `validateAccountState` (all in
state/validation.go), `put` = state `Storage.Put` with its three branches (state/storage.go); below it `Tr.traverseT` =
`TraverseTrieNodeKind` (state/trie/utils.go): the traversal with the kind of the hit (child reference / leaf value)
told, and `panic` where the tree as found indexed unchecked; `Tr.decodeNode` = `DecodeTrieNode`, `Tr.decodeAccount` =
`types.FullAccount`. All theorems hold for EVERY environment `E` (any hash function, any node decoder, any account
decoder): nothing is assumed about Keccak-256; "hash-linked" is an equation between hashes, so soundness is up to
collisions by construction.

Specification: `Spv.Chain E q root path proof last rest` — the first node hashes to `root`, each following node hashes to
what the previous one REFERS to along the path (`Tr.ReachT … .ref`), `last` is the final node, `rest` the unused path.

`Spv.ideal` (all switches off) is what the property demands; `Spv.asImplemented` (all on) is the tree as found: index
panics in the traversal (repaired by b3990c9), leaf value and child reference not told apart (9547aa9), `Put` on an
empty proof (b4c593b). The driver requires the code's answer to equal the model's under some setting of the
switches, and judges every answer of the code against the ideal specification. -/
namespace Props.C13
open Spv Tr

/-- In the ideal model a link is a genuine child reference: "each following node is the child the previous one
    references along the key's path". -/
theorem link_is_child_reference (E : Env) (e : Bytes) (path : Path) (r : Bytes) (rest : Path) :
    LinkRel E ideal e path r rest ↔ ∃ n, E.decodeN e = some n ∧ ReachT n path .ref r rest := by
  simp only [LinkRel, ideal, Bool.false_eq_true, false_and, or_false]

/-- `TraverseTrieNode` as modelled returns a child reference exactly for a genuine walk to a `hashNode` (branch
    steps by one nibble, extension steps by its whole key) and a value exactly at a leaf whose key is all that is
    left of the path. -/
theorem traversal_is_walk (n : Node) (path : Path) (k : Hit) (b : Bytes) (rest : Path) :
    traverseT n path = .ok k b rest ↔ ReachT n path k b rest := Tr.traverseT_iff n path k b rest

/-- the tagged traversal (the function the driver runs against the Go code) with the tag forgotten is `Tr.traverse`,
    the untagged form that `Tr.validateTrieProof_iff` and `Props.C01.traverse_asIs_is_Tr` speak of -/
theorem traversal_forgets_to_calibrated (n : Node) (path : Path) : (traverseT n path).erase = traverse n path :=
  Tr.traverseT_erase n path

/-- "its proof starts at the state root …, each following node is the child the previous one references along the
    key's path": `validateTrieProof` succeeds exactly on hash-linked chains. -/
theorem proof_accepted_iff_linked (E : Env) (root : Bytes) (path : Path) (proof : List Bytes) (last : Bytes) (rest : Path) :
    Spv.validateTrieProof E ideal root path proof = .ok (last, rest) ↔ Chain E ideal root path proof last rest :=
  Spv.validateTrieProof_iff E ideal root path proof last rest

/-- "A trie-node … item is accepted only if its proof starts at the state root of the header it names, each following
    node is the child the previous one references along the key's path, the path is fully consumed, and the final node
    … equals the hash in the key" — account trie node, both directions. -/
theorem account_node_accepted_iff (E : Env) (oracle : Bytes → Option Bytes) (it : Item) (ht : it.keyType = 0x20) :
    validateContent E ideal oracle it = .ok () ↔
      decodes it = true ∧ ∃ root, oracle it.blockHash = some root ∧
        ∃ last, Chain E ideal root it.path it.proof last [] ∧ E.hashOf last = it.nodeHash := by
  simp only [validateContent_iff, ht, if_true]

/-- the same for a contract storage trie node: the account is proven under the state root along the full address
    path down to a leaf VALUE, and the storage proof is linked under that account's storage root -/
theorem storage_node_accepted_iff (E : Env) (oracle : Bytes → Option Bytes) (it : Item) (ht : it.keyType = 0x21) :
    validateContent E ideal oracle it = .ok () ↔
      decodes it = true ∧ ∃ root, oracle it.blockHash = some root ∧
        ∃ a, ProvenAccount E ideal root it.addrHash it.acctProof a ∧
          ∃ last, Chain E ideal (fullRoot E a) it.path it.proof last [] ∧ E.hashOf last = it.nodeHash := by
  simp only [validateContent_iff, ht, Nat.reduceEqDiff, if_false, if_true]

/-- in the ideal model the proven account is the value of a LEAF whose key is exactly the rest of the address path -/
theorem proven_account_is_leaf_value (E : Env) (root addrHash : Bytes) (proof : List Bytes) (a : Account) :
    ProvenAccount E ideal root addrHash proof a ↔
      ∃ last p b, Chain E ideal root (nibblesOf addrHash) proof last p ∧
        (∃ n, E.decodeN last = some n ∧ ∃ rest, ReachT n p .val b rest) ∧ E.decodeAcct b = some a := by
  simp only [ProvenAccount, AcctRel, ideal, Bool.false_eq_true, false_and, or_false]

/-- "… or the proven account's code hash equals the hash in the key" — bytecode, both directions -/
theorem bytecode_accepted_iff (E : Env) (oracle : Bytes → Option Bytes) (it : Item) (ht : it.keyType = 0x22) :
    validateContent E ideal oracle it = .ok () ↔
      decodes it = true ∧ ∃ root, oracle it.blockHash = some root ∧
        ∃ a, ProvenAccount E ideal root it.addrHash it.acctProof a ∧ fullCodeHash E a = it.nodeHash := by
  simp only [validateContent_iff, ht, Nat.reduceEqDiff, if_false]

/-- "what is then stored is that final node …": an accepted trie-node item is stored, as exactly the container of the
    final proof node — the node whose hash is the key's (any switches) -/
theorem accepted_node_stored_is_final (E : Env) (q : Quirks) (it : Item) (root last : Bytes) (hd : decodes it = true)
    (ht : it.keyType ≠ 0x22) (hv : validateNode E q root it.nodeHash it.path it.proof = .ok last) :
    put E q it = .ok (container last) ∧ it.proof.getLast? = some last ∧ E.hashOf last = it.nodeHash := by
  obtain ⟨hc, hh⟩ := (validateNode_iff E q root _ _ _ last).mp hv
  exact ⟨(put_node_iff E q it _ ht).mpr ⟨hd, last, chain_last hc, hh, rfl⟩, chain_last hc, hh⟩

/-- "… and nothing else from the proof": whatever `Put` stores for a trie-node key is the container of the LAST proof
    node and that node hashes to the key's node hash; containers of different nodes differ -/
theorem stored_node_is_last_only (E : Env) (q : Quirks) (it : Item) (s : Bytes) (ht : it.keyType ≠ 0x22)
    (h : put E q it = .ok s) :
    ∃ last, it.proof.getLast? = some last ∧ s = container last ∧ E.hashOf last = it.nodeHash ∧
      ∀ other, container other = s → other = last := by
  obtain ⟨_, last, hl, hh, rfl⟩ := (put_node_iff E q it s ht).mp h
  exact ⟨last, hl, rfl, hh, fun other ho => List.append_cancel_left ho⟩

/-- "… or that code": whatever `Put` stores for a bytecode key is the container of the code, and the code hashes to
    the key's code hash (this is where the code itself is bound to the proven code hash) -/
theorem stored_code_is_code (E : Env) (q : Quirks) (it : Item) (s : Bytes) (ht : it.keyType = 0x22)
    (h : put E q it = .ok s) : s = container it.code ∧ E.hashOf it.code = it.nodeHash :=
  have ⟨_, hh, hs⟩ := (put_code_iff E q it s ht).mp h
  ⟨hs.symm, hh⟩

/-- bytecode accepted by validation AND stored: the code hashes to the code hash of the account proven under the
    state root -/
theorem accepted_bytecode_bound_to_account (E : Env) (oracle : Bytes → Option Bytes) (it : Item) (s : Bytes)
    (ht : it.keyType = 0x22) (hv : validateContent E ideal oracle it = .ok ()) (hp : put E ideal it = .ok s) :
    ∃ root a, oracle it.blockHash = some root ∧ ProvenAccount E ideal root it.addrHash it.acctProof a ∧
      E.hashOf it.code = fullCodeHash E a ∧ s = container it.code := by
  obtain ⟨_, root, ho, a, ha, hc⟩ := (bytecode_accepted_iff E oracle it ht).mp hv
  obtain ⟨hs, hh⟩ := stored_code_is_code E ideal it s ht hp
  exact ⟨root, a, ho, ha, hh.trans hc.symm, hs⟩

/-! ## "Wrong root, broken link, wrong path, surplus or missing nodes are all rejected with an error." -/

/-- no outcome but ok / error in the ideal model: rejection is always an error, never a panic -/
theorem rejected_with_error (E : Env) (oracle : Bytes → Option Bytes) (it : Item)
    (h : validateContent E ideal oracle it ≠ .ok ()) : validateContent E ideal oracle it = .err :=
  res_err_of _ (validateContent_no_panic E ideal rfl oracle it) fun _ => h

/-- "… rejected with an error", for the store: what the ideal `Put` does not store it refuses with an error, never a panic -/
theorem put_rejected_with_error (E : Env) (it : Item) (h : ∀ s, put E ideal it ≠ .ok s) : put E ideal it = .err :=
  res_err_of _ (put_no_panic E ideal rfl it) h

/-- unknown header / header source error -/
theorem unknown_block_rejected (E : Env) (q : Quirks) (oracle : Bytes → Option Bytes) (it : Item)
    (h : oracle it.blockHash = none) : validateContent E q oracle it = .err := by
  simp only [validateContent, h, ite_self]

/-- wrong root -/
theorem wrong_root_rejected (E : Env) (q : Quirks) (root : Bytes) (path : Path) (first : Bytes) (more : List Bytes)
    (h : E.hashOf first ≠ root) : Spv.validateTrieProof E q root path (first :: more) = .err :=
  if_pos h

/-- missing nodes: the empty proof -/
theorem empty_proof_rejected (E : Env) (q : Quirks) (root : Bytes) (path : Path) :
    Spv.validateTrieProof E q root path [] = .err := rfl

/-- broken link: the proof is linked up to `a`, `a` refers to `r` along the path, the next node does not hash to `r` -/
theorem broken_link_rejected (E : Env) (root : Bytes) (path : Path) (pre : List Bytes) (a b : Bytes) (post : List Bytes)
    (p : Path) (r : Bytes) (p' : Path) (hpre : Spv.validateTrieProof E ideal root path (pre ++ [a]) = .ok (a, p))
    (hl : link E ideal a p = .ok (r, p')) (hb : E.hashOf b ≠ r) :
    Spv.validateTrieProof E ideal root path (pre ++ a :: b :: post) = .err :=
  Spv.broken_link_err E ideal root path pre a b post p r p' hpre hl hb

/-- wrong path: the proof is linked up to `a`, but walking `a` along what is left of the key's path reaches no child
    reference (mismatching extension or leaf key, absent child, path exhausted) -/
theorem wrong_path_rejected (E : Env) (root : Bytes) (path : Path) (pre : List Bytes) (a b : Bytes) (post : List Bytes)
    (p : Path) (hpre : Spv.validateTrieProof E ideal root path (pre ++ [a]) = .ok (a, p))
    (hl : ∀ r p', ¬ LinkRel E ideal a p r p') :
    Spv.validateTrieProof E ideal root path (pre ++ a :: b :: post) = .err :=
  Spv.wrong_path_err E ideal rfl root path pre a b post p hpre hl

/-- the path is not fully consumed -/
theorem path_not_consumed_rejected (E : Env) (q : Quirks) (root nodeHash : Bytes) (path : Path) (proof : List Bytes)
    (last : Bytes) (rest : Path) (h : Spv.validateTrieProof E q root path proof = .ok (last, rest)) (hr : rest ≠ []) :
    validateNode E q root nodeHash path proof = .err := by
  simp [validateNode, h, hr]

/-- the final node does not hash to the hash in the key -/
theorem final_hash_mismatch_rejected (E : Env) (q : Quirks) (root nodeHash : Bytes) (path : Path) (proof : List Bytes)
    (last : Bytes) (h : Spv.validateTrieProof E q root path proof = .ok (last, [])) (hh : E.hashOf last ≠ nodeHash) :
    validateNode E q root nodeHash path proof = .err := by
  simp [validateNode, h, hh]

/-- surplus nodes: when the proof is linked and the path used up, every longer proof is rejected -/
theorem surplus_nodes_rejected (E : Env) (hE : TopLevel E) (root nodeHash : Bytes) (path : Path) (proof : List Bytes)
    (last : Bytes) (h : Spv.validateTrieProof E ideal root path proof = .ok (last, [])) (extra : Bytes) (more : List Bytes) :
    validateNode E ideal root nodeHash path (proof ++ extra :: more) = .err :=
  Spv.surplus_err E ideal rfl hE root nodeHash path proof last h extra more

/-- missing nodes: an accepted proof without its final node is rejected (part of the path stays unused) -/
theorem missing_last_node_rejected (E : Env) (hE : TopLevel E) (root : Bytes) (path : Path) (init : List Bytes)
    (last : Bytes) (hi : init ≠ []) (h : Spv.validateTrieProof E ideal root path (init ++ [last]) = .ok (last, []))
    (nodeHash : Bytes) : validateNode E ideal root nodeHash path init = .err :=
  Spv.missing_last_err E ideal rfl rfl hE root path init last h nodeHash

/-- the real node decoder satisfies the side condition of the two theorems above, with any hash function -/
theorem real_decoder_top_level (h : Bytes → Bytes) (da : Bytes → Option Account) (er ec : Bytes) :
    TopLevel { hashOf := h, decodeN := decodeNode, decodeAcct := da, emptyRoot := er, emptyCode := ec } :=
  fun e n hd => by rcases decodeNodeF_top _ e n hd with ⟨k, v, rfl⟩ | ⟨cs, rfl⟩ <;> nofun

end Props.C13

/-! ## A toy environment, in which the hypotheses above are met by concrete proofs -/

namespace Spv.Witness
open Spv Tr

/-- identity "hash", four nodes given by a table -/
def toy : Env :=
  { hashOf := id,
    decodeN := fun e =>
      if e = [1] then some (.short [5, 6, 16] (.value [2]))         -- leaf 5,6 ↦ value [2]
      else if e = [2] then some (.short [5, 6] (.hash [3]))          -- extension 5,6 → [3]
      else if e = [4] then some (.full [.empty, .empty, .empty, .hash [1]])   -- branch: nibble 3 → [1]
      else if e = [7] then some (.short [] .empty)                   -- c2 80 80
      else none,
    decodeAcct := fun b => if b = [1] then some { nonce := 0, balance := 0, root := [], codeHash := [] } else none,
    emptyRoot := [0], emptyCode := [0] }

def toyOracle : Bytes → Option Bytes := fun bh => if bh = [9] then some [4] else none

/-- non-vacuity: an honest two-node proof (branch → leaf) is accepted and its final node stored -/
def honestItem : Item :=
  { keyType := 0x20, path := [3], nodeHash := [1], addrHash := [], proof := [[4], [1]], acctProof := [], code := [],
    blockHash := [9] }

/-- none of the four table entries is a bare reference -/
theorem toy_topLevel : TopLevel toy := by
  rintro e n h x rfl
  revert h
  refine ite_ne ?_ (ite_ne ?_ (ite_ne ?_ (ite_ne ?_ ?_))) <;> nofun

theorem honest_link : link toy ideal [4] [3] = .ok ([1], []) := by
  simp [link, toy, traverseT]

/-- the honest two-node proof branch [4] → leaf [1] along path [3] -/
theorem honest_chain : Spv.validateTrieProof toy ideal [4] [3] ([[4]] ++ [[1]]) = .ok ([1], []) := by
  rw [List.singleton_append, validateTrieProof_cons, honest_link]; rfl

end Spv.Witness

namespace Props.C13
open Spv Tr Spv.Witness

example : validateContent toy ideal toyOracle honestItem = .ok () :=
  (account_node_accepted_iff toy toyOracle honestItem rfl).mpr
    ⟨by decide, [4], rfl, [1], (proof_accepted_iff_linked ..).mp honest_chain, rfl⟩
example : put toy ideal honestItem = .ok (container [1]) := by rfl
-- the hypotheses of the rejection theorems are met by concrete proofs (toy environment: identity hash)
example : validateNode toy ideal [4] [1] [3] ([[4], [1]] ++ [9] :: []) = .err :=
  surplus_nodes_rejected toy toy_topLevel [4] [1] [3] [[4], [1]] [1] honest_chain [9] []
example : validateNode toy ideal [4] [4] [3] [[4]] = .err :=
  missing_last_node_rejected toy toy_topLevel [4] [3] [[4]] [1] nofun honest_chain [4]
example : Spv.validateTrieProof toy ideal [4] [3] ([] ++ [4] :: [9] :: []) = .err :=
  broken_link_rejected toy [4] [3] [] [4] [9] [] [3] [1] [] rfl honest_link (by decide)
example : Spv.validateTrieProof toy ideal [0] [3] [[4], [1]] = .err :=
  wrong_root_rejected toy ideal [0] [3] [4] [[1]] (by decide)
example : validateNode toy ideal [4] [4] [3, 0] [[4]] = .err :=
  path_not_consumed_rejected toy ideal [4] [4] [3, 0] [[4]] [4] [3, 0] rfl nofun
example : Chain toy ideal [4] [3] [[4], [1]] [1] [] :=
  (proof_accepted_iff_linked ..).mp honest_chain

/-! ## The tree as found: switches on -/

/-- what the tree as found accepted, exactly (the driver's mode `impl` compares the code with this model) -/
theorem as_implemented_account_node_iff (E : Env) (oracle : Bytes → Option Bytes) (it : Item) (ht : it.keyType = 0x20) :
    validateContent E asImplemented oracle it = .ok () ↔
      decodes it = true ∧ ∃ root, oracle it.blockHash = some root ∧
        ∃ last, Chain E asImplemented root it.path it.proof last [] ∧ E.hashOf last = it.nodeHash := by
  simp only [validateContent_iff, ht, if_true]

/-- NEGATIVE (switch `panics`): a proof whose first node is an extension, asked with nothing left of the path, made
    the loop of the tree as found index out of range — a panic, where the property demands an error. Any extension node of any real
    trie serves (key path = path to the extension, proof = genuine nodes + one surplus node). Third conjunct: the short
    node with an empty key (`c2 80 80`). -/
theorem panics_breaks_C13 :
    Spv.validateTrieProof toy asImplemented [2] [] [[2], [3]] = .panic ∧
    Spv.validateTrieProof toy ideal [2] [] [[2], [3]] = .err ∧
    Spv.validateTrieProof toy asImplemented [7] [5] [[7], [3]] = .panic := by
  have ext_nil : traverseT (.short [5, 6] (.hash [3])) [] = .panic := by
    rw [traverseT_short]; rfl
  simp [Spv.validateTrieProof_cons, link, toy, ext_nil, traverseT_empty_key, asImplemented, ideal]

/-- NEGATIVE (switch `leafAsRef`): leaf [1] holds the VALUE [2]; the tree as found took it for the reference to the next
    proof node, continued through the foreign node [2] and accepted node [3], which no node of the trie under root [1]
    references. The ideal model rejects. -/
theorem leaf_value_as_link_breaks_C13 :
    validateNode toy asImplemented [1] [3] [5, 6] [[1], [2], [3]] = .ok [3] ∧
    validateNode toy ideal [1] [3] [5, 6] [[1], [2], [3]] = .err := by
  have leaf_ok : traverseT (.short [5, 6, 16] (.value [2])) [5, 6] = .ok .val [2] [5, 6] :=
    traverseT_leaf [5, 6] [2] nofun
  have ext_ok : traverseT (.short [5, 6] (.hash [3])) [5, 6] = .ok .ref [3] [] := by
    rw [traverseT_short]; simp [matchKey, traverseT]
  simp [validateNode, Spv.validateTrieProof_cons, Spv.validateTrieProof_single, link, toy, leaf_ok, ext_ok,
    asImplemented, ideal]

/-- NEGATIVE (switch `leafAsRef`, other direction): the account proof stops at branch [4]; the tree as found took the
    child REFERENCE [1] for the account's RLP (and ignored the unused rest of the address path). The ideal model rejects. -/
theorem child_ref_as_account_breaks_C13 :
    validateAccountState toy asImplemented [4] [0x30] [[4]] =
      .ok { nonce := 0, balance := 0, root := [], codeHash := [] } ∧
    validateAccountState toy ideal [4] [0x30] [[4]] = .err := by
  have branch_ok : traverseT (.full [.empty, .empty, .empty, .hash [1]]) [3, 0] = .ok .ref [1] [0] := by
    simp [traverseT]
  simp [validateAccountState, Spv.validateTrieProof_single, accountBytes, nibblesOf, toy, branch_ok, asImplemented,
    ideal]

/-- NEGATIVE (switch `putUnguarded`): `Put` of a trie-node item with an empty proof panicked instead of failing -/
theorem put_unguarded_breaks_C13 :
    put toy asImplemented { honestItem with proof := [] } = .panic ∧
    put toy ideal { honestItem with proof := [] } = .err := ⟨rfl, rfl⟩

/-- the byte-level witness of the first finding for the REAL decoder: `c2 80 80` is a short node with an empty key -/
example : decodeNode [0xc2, 0x80, 0x80] = some (.short [] .empty) := by rfl
example : traverseT (.short [] .empty) [1, 2] = .panic := traverseT_empty_key ..

#print axioms link_is_child_reference
#print axioms traversal_is_walk
#print axioms traversal_forgets_to_calibrated
#print axioms proof_accepted_iff_linked
#print axioms account_node_accepted_iff
#print axioms storage_node_accepted_iff
#print axioms proven_account_is_leaf_value
#print axioms bytecode_accepted_iff
#print axioms accepted_node_stored_is_final
#print axioms stored_node_is_last_only
#print axioms stored_code_is_code
#print axioms accepted_bytecode_bound_to_account
#print axioms rejected_with_error
#print axioms put_rejected_with_error
#print axioms unknown_block_rejected
#print axioms wrong_root_rejected
#print axioms empty_proof_rejected
#print axioms broken_link_rejected
#print axioms wrong_path_rejected
#print axioms path_not_consumed_rejected
#print axioms final_hash_mismatch_rejected
#print axioms surplus_nodes_rejected
#print axioms missing_last_node_rejected
#print axioms real_decoder_top_level
#print axioms as_implemented_account_node_iff
#print axioms panics_breaks_C13
#print axioms leaf_value_as_link_breaks_C13
#print axioms child_ref_as_account_breaks_C13
#print axioms put_unguarded_breaks_C13
end Props.C13
