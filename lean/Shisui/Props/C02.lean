import Shisui.History.Content
import Shisui.History.Gate
/-! # C02 — History content is accepted only when bound to its key and the trusted roots

> A history content item is accepted - validated, stored or returned by the block getters - only if it is
> cryptographically tied to the key it was requested or offered under: a header's hash (or number) equals the key's and
> its proof verifies against the built-in accumulators; a body's transaction, uncle and withdrawal roots, and a receipt
> list's root, equal those of the header with the key's block hash. Any other byte string under that key is rejected with
> an error.

Model (`Shisui/History/Content.lean`, `Shisui/History/Gate.lean`): `Hc.validateContent env q rpc key content` is
`HistoryValidator.ValidateContent` (history/validation.go; with `validateBlockBody` and `ValidatePortalReceiptsBytes` of
history_network.go) with the real `ValidationOracle.GetBlockHeaderByHash` (validation/oracle.go) in front of an ARBITRARY
header source `rpc` (what `portal_historyGetContent` answers — `RecursiveFindContent` of portalwire/api.go returns looked-up
content as is, so it may be anything), over an ARBITRARY decoding environment `env` (rlp, keccak, `DeriveSha`,
`CalcUncleHash`, the SSZ containers and the header-proof check of C03 are parameters; nothing is assumed about them).
`Hg.gate` is `Network.validateContents`, `Hg.getter` the three block getters `GetBlockHeader`, `GetBlockBody`, `GetReceipts`
(history_network.go).

The theorems are about the ideal model `q = {}`. The tree as it was found differed from it at five places, each a switch of
`Hc.Quirks` with a decided witness below; all five are repaired in /repo (77e9eff, 265171a, 672fa68 and 13d4b89, e82cfcd;
DESIGN.md 0.3). The driver compares the code with the model whose switches are given on its command line (none since the
repairs) and evaluates `accepted ⇒ bound` on the code's own verdicts. `Hdr.hash` is always the
hash recomputed from the decoded header, so "a header whose hash is the key's" (`Hc.HeaderWithHash`) is a statement about
`env.decodeHeader`, not about a claimed value; hash collisions are not assumed away (see `accepted_body_matches_the_header`). -/
namespace Props.C02
open Hc

/-- "A history content item is accepted - validated … - only if it is cryptographically tied to the key it was requested or
    offered under" — for every decoding environment, key, content and every header source however it lies.
    `Hc.Bound` is spelled out per key type by the four corollaries below: each is `Bound` at a key with that selector
    byte, unfolded (`parseKey` computes on the selector). -/
theorem accept_sound (env : Env) (rpc : Bytes → Option Bytes) (key content : Bytes)
    (hv : validateContent env {} rpc key content = .ok) : Bound env key content :=
  Hc.accept_sound env rpc key content hv

/-- "a header's hash … equals the key's and its proof verifies against the built-in accumulators" (key `00 ‖ h`) -/
theorem accepted_header_by_hash (env : Env) (rpc : Bytes → Option Bytes) (h content : Bytes)
    (hv : validateContent env {} rpc (0 :: h) content = .ok) :
    ∃ hb pf hd, env.decodeHWP content = some (hb, pf) ∧ env.decodeHeader hb = some hd ∧
      hd.hash = h ∧ env.proofCheck hd pf = .ok :=
  Hc.accept_sound env rpc (0 :: h) content hv

/-- "a header's … (or number) equals the key's and its proof verifies" (key `03 ‖ n` as 8 little-endian bytes) -/
theorem accepted_header_by_number (env : Env) (rpc : Bytes → Option Bytes) (p content : Bytes) (hp : 8 ≤ p.length)
    (hv : validateContent env {} rpc (3 :: p) content = .ok) :
    ∃ hb pf hd, env.decodeHWP content = some (hb, pf) ∧ env.decodeHeader hb = some hd ∧
      hd.number = leNat (p.take 8) ∧ env.proofCheck hd pf = .ok := by
  have := Hc.accept_sound env rpc (3 :: p) content hv
  rwa [Bound, show parseKey (3 :: p) = _ from if_pos hp] at this

/-- "a body's transaction, uncle and withdrawal roots … equal those of the header with the key's block hash" (key `01 ‖ h`):
    some header that DECODES (so its hash is the recomputed one) has hash `h` and exactly these three roots; a legacy body
    (no withdrawals list) is only bound to a header without a withdrawals root and vice versa -/
theorem accepted_body (env : Env) (rpc : Bytes → Option Bytes) (h content : Bytes)
    (hv : validateContent env {} rpc (1 :: h) content = .ok) :
    ∃ b hd, env.decodeBody content = some b ∧ HeaderWithHash env h hd ∧
      b.txRoot = hd.txRoot ∧ b.uncleRoot = hd.uncleRoot ∧ b.wdRoot = hd.wdRoot :=
  Hc.accept_sound env rpc (1 :: h) content hv

/-- "a receipt list's root equal[s] [that] of the header with the key's block hash" (key `02 ‖ h`); a header with the empty
    receipt root is matched by the empty byte string only -/
theorem accepted_receipts (env : Env) (rpc : Bytes → Option Bytes) (h content : Bytes)
    (hv : validateContent env {} rpc (2 :: h) content = .ok) :
    ∃ hd, HeaderWithHash env h hd ∧
      (if hd.receiptRoot = emptyReceiptRoot then content = []
       else content ≠ [] ∧ env.decodeReceipts content = some hd.receiptRoot) :=
  Hc.accept_sound env rpc (2 :: h) content hv

/-- "those of THE header with the key's block hash": for any decodable header `hd'` whose hash is the key's, an accepted
    body carries `hd'`'s roots — or two different decodable headers with one hash have been exhibited (no injectivity axiom) -/
theorem accepted_body_matches_the_header (env : Env) (rpc : Bytes → Option Bytes) (h content : Bytes)
    (hv : validateContent env {} rpc (1 :: h) content = .ok)
    (hb' : Bytes) (hd' : Hdr) (hdec : env.decodeHeader hb' = some hd') (hh : hd'.hash = h) :
    ∃ b, env.decodeBody content = some b ∧
      ((b.txRoot = hd'.txRoot ∧ b.uncleRoot = hd'.uncleRoot ∧ b.wdRoot = hd'.wdRoot) ∨
       (∃ hb hd, env.decodeHeader hb = some hd ∧ hd.hash = hd'.hash ∧ hd ≠ hd')) :=
  have ⟨b, hd, hb, hw, hr⟩ := accepted_body env rpc h content hv
  ⟨b, hb, (hw.eq_or_collision hd' hh).imp_left fun (e : hd = hd') => e ▸ hr⟩

/-- "a receipt list's root equal[s] [that] of THE header with the key's block hash": for any decodable header `hd'` whose hash
    is the key's, accepted receipts have `hd'`'s receipt root (no bytes at all if that is the empty root) — or the collision -/
theorem accepted_receipts_match_the_header (env : Env) (rpc : Bytes → Option Bytes) (h content : Bytes)
    (hv : validateContent env {} rpc (2 :: h) content = .ok)
    (hb' : Bytes) (hd' : Hdr) (hdec : env.decodeHeader hb' = some hd') (hh : hd'.hash = h) :
    (if hd'.receiptRoot = emptyReceiptRoot then content = []
     else content ≠ [] ∧ env.decodeReceipts content = some hd'.receiptRoot) ∨
    (∃ hb hd, env.decodeHeader hb = some hd ∧ hd.hash = hd'.hash ∧ hd ≠ hd') :=
  have ⟨hd, hw, hr⟩ := accepted_receipts env rpc h content hv
  (hw.eq_or_collision hd' hh).imp_left fun (e : hd = hd') => e ▸ hr

/-- "Any other byte string under that key is rejected with an error": not bound ⇒ the verdict is `err` — never `ok`,
    never a panic; this includes every malformed, unknown-selector and empty key -/
theorem reject_total (env : Env) (rpc : Bytes → Option Bytes) (key content : Bytes)
    (hn : ¬ Bound env key content) : validateContent env {} rpc key content = .err :=
  Hc.reject_total env rpc key content hn

/-- no key, content, decoder behaviour or source answer makes the (ideal) validator panic -/
theorem never_panics (env : Env) (rpc : Bytes → Option Bytes) (key content : Bytes) :
    validateContent env {} rpc key content ≠ .panic := Hc.never_panics env rpc key content

/-- "every header source the validator consults": whatever `portal_historyGetContent` answers, the (ideal) oracle returns
    for a requested hash only a header that decodes and whose recomputed hash is the requested one -/
theorem oracle_returns_requested_header (env : Env) (rpc : Bytes → Option Bytes) (h : Bytes) (hd : Hdr)
    (hl : oracleLookup env {} rpc h = some hd) : HeaderWithHash env h hd :=
  have ⟨hs, hh⟩ := (lookup_ideal (srcOf env rpc) h hd).1 hl
  ⟨srcOf_decodes env rpc h hd hs, hh⟩

/-- "accepted - … stored …": every `Put` made by `validateContents` is of an offered item that the validator accepted, hence
    of bound content — for every item list and every store content -/
theorem put_gated (env : Env) (rpc : Bytes → Option Bytes) (st : Hg.Store Bytes Bytes) (items : List (Bytes × Bytes)) :
    ∀ p ∈ (Hg.gate (validateContent env {} rpc) st items).2.1, p ∈ items ∧ Bound env p.1 p.2 :=
  fun p hp => (Hg.gate_puts_validated _ items st p hp).imp_right (Hc.accept_sound env rpc p.1 p.2)

/-- "accepted - … returned by the block getters": what a getter returns is the decoding of content that was already in the
    store under the requested key, or of looked-up content that is bound to the requested key; and what it stores is bound -/
theorem getter_returns_bound {R : Type} (env : Env) (rpc : Bytes → Option Bytes) (dec : Bytes → Option R)
    (st : Hg.Store Bytes Bytes) (remote : Bytes → Option Bytes) (key : Bytes) :
    (∀ r, (Hg.getter (validateContent env {} rpc) dec st remote key).2.2.1 = some r →
        ∃ c, dec c = some r ∧ ((key, c) ∈ st ∨ (remote key = some c ∧ Bound env key c))) ∧
    (∀ p, (Hg.getter (validateContent env {} rpc) dec st remote key).2.1 = some p → p.1 = key ∧ Bound env p.1 p.2) := by
  rcases Hg.getter_cases (validateContent env {} rpc) dec st remote key with
    ⟨c, hg, e⟩ | ⟨c, r, hrem, hv, hd, e⟩ | ⟨o, e⟩ <;> rw [e]
  · exact ⟨fun r hr => ⟨c, hr, .inl (Hg.get_mem st key c hg)⟩, nofun⟩
  · have hb := Hc.accept_sound env rpc key c hv
    exact ⟨fun r' hr => ⟨c, hd.trans hr, .inr ⟨hrem, hb⟩⟩, fun p hp => by cases hp; exact ⟨rfl, hb⟩⟩
  · exact ⟨nofun, nofun⟩

/-- the store as a whole: over EVERY history of accepted offers and getter calls from an empty store — the header source
    may answer differently (and lie differently) at every step — the store only ever holds content bound to its key, so the
    getters' local path (which returns stored content without validating it again) returns bound content too -/
theorem store_only_holds_bound_content {R : Type} (env : Env) (dec : Bytes → Option R)
    (ops : List (Hg.Op Bytes Bytes))
    (hops : ∀ op ∈ ops, ∃ rpc, op.validator = validateContent env {} rpc) :
    ∀ p ∈ Hg.run dec ([] : Hg.Store Bytes Bytes) ops, Bound env p.1 p.2 := by
  intro p hp
  rcases Hg.run_mem dec ops [] p hp with h | ⟨op, hop, hv⟩
  · cases h
  · obtain ⟨rpc, hr⟩ := hops op hop
    exact Hc.accept_sound env rpc p.1 p.2 (hr ▸ hv)

/-- the function the driver executes on the harness's observations is the byte-level model: -/
theorem driver_model_is_the_model (env : Env) (q : Quirks) (rpc : Bytes → Option Bytes) (key content : Bytes)
    (k : Key) (hk : parseKey key = some k) :
    validateContent env q rpc key content = validateKey q (srcOf env rpc) key (observe env k content) := by
  rw [validateContent, validateKey, hk]

/-- at the observation level the ideal verdict is `ok` EXACTLY when the pair is bound relative to the source's answer -/
theorem accept_iff_bound_obs (src : Bytes → Option Hdr) (k : Key) (c : Content) :
    validate {} src k c = .ok ↔ BoundObs src k c := (validate_decides src k c).ok_iff

/-! ## Negative results: the tree as found (each switch, one decided witness beside the ideal model's verdict) -/

/-- validation/oracle.go before 77e9eff — the looked-up header was never compared with the requested hash: a lying source
    gets a forged body accepted under a key whose hash no served header has -/
theorem oracle_unbound_breaks_C02 :
    let forged : Hdr := { hash := hx 99, number := 1, txRoot := hx 7, uncleRoot := hx 8, wdRoot := none, receiptRoot := hx 9 }
    let b : Body := { txRoot := hx 7, uncleRoot := hx 8, wdRoot := none }
    validate { oracleUnbound := true } (fun _ => some forged) (.body (hx 42)) (.body b) = .ok ∧
    validate {} (fun _ => some forged) (.body (hx 42)) (.body b) = .err ∧
    ¬ BoundObs (fun _ => some forged) (.body (hx 42)) (.body b) := Hc.quirk_oracle_unbound_breaks_C02

/-- history_network.go `validateBlockBody` before 265171a — a body without its withdrawals is accepted for a header that
    commits to them -/
theorem legacy_body_breaks_C02 :
    let hd : Hdr := { hash := hx 42, number := 18000000, txRoot := hx 7, uncleRoot := hx 8, wdRoot := some (hx 5), receiptRoot := hx 9 }
    let b : Body := { txRoot := hx 7, uncleRoot := hx 8, wdRoot := none }
    validate { legacyBodySkipsWithdrawals := true } (fun _ => some hd) (.body (hx 42)) (.body b) = .ok ∧
    validate {} (fun _ => some hd) (.body (hx 42)) (.body b) = .err := ⟨by decide, by decide⟩

/-- the same function before 265171a — a Shanghai-format body under a header without a withdrawals root panics instead of
    failing -/
theorem nil_withdrawals_hash_breaks_C02 :
    let hd : Hdr := { hash := hx 42, number := 100, txRoot := hx 7, uncleRoot := hx 8, wdRoot := none, receiptRoot := hx 9 }
    let b : Body := { txRoot := hx 7, uncleRoot := hx 8, wdRoot := some (hx 5) }
    validate { nilWithdrawalsHashDeref := true } (fun _ => some hd) (.body (hx 42)) (.body b) = .panic ∧
    validate {} (fun _ => some hd) (.body (hx 42)) (.body b) = .err := ⟨by decide, by decide⟩

/-- validation/header_validator.go before 672fa68 and 13d4b89 (C03's findings seen from here) — a header whose proof check
    panics -/
theorem header_proof_panics_breaks_C02 :
    let hd : Hdr := { hash := hx 42, number := 15600000, txRoot := hx 7, uncleRoot := hx 8, wdRoot := none, receiptRoot := hx 9 }
    validate { headerProofPanics := true } (fun _ => none) (.headerByHash (hx 42)) (.header hd .panic) = .panic ∧
    validate {} (fun _ => none) (.headerByHash (hx 42)) (.header hd .panic) = .err := ⟨by decide, by decide⟩

/-- history/validation.go `ValidateContent` before e82cfcd — `contentKey[0]` on the empty key -/
theorem empty_key_breaks_C02 :
    validateKey { emptyKeyPanics := true } (fun _ => none) [] .undecodable = .panic ∧
    validateKey {} (fun _ => none) [] .undecodable = .err := ⟨by decide, by decide⟩

/-! ## The hypotheses are satisfiable: a toy environment in which content is accepted, rejected and stored -/

/-- header bytes `[n]` decode to header number n with hash `[n]` and roots 7/8/9; a body `[a, b]` has roots a/b -/
def toyEnv : Env where
  decodeHWP c := some (c, [])
  decodeHeader hb := match hb with
    | [n] => some { hash := [n], number := n, txRoot := [7], uncleRoot := [8], wdRoot := none, receiptRoot := [9] }
    | _ => none
  proofCheck hd _ := if hd.number < 100 then .ok else .err
  decodeBody c := match c with
    | [a, b] => some { txRoot := [a], uncleRoot := [b], wdRoot := none }
    | _ => none
  decodeReceipts c := some c

-- an honest source: the body with the header's roots is accepted under the header's hash …
example : validateContent toyEnv {} (fun _ => some [42]) [1, 42] [7, 8] = .ok := by decide
-- … another body is not, a lying source makes no difference to the ideal validator, and it does with `oracleUnbound` on
example : validateContent toyEnv {} (fun _ => some [42]) [1, 42] [7, 9] = .err := by decide
example : validateContent toyEnv {} (fun _ => some [43]) [1, 42] [7, 8] = .err := by decide
example : validateContent toyEnv { oracleUnbound := true } (fun _ => some [43]) [1, 42] [7, 8] = .ok := by decide
-- headers: hash and number keys, proof verdict
example : validateContent toyEnv {} (fun _ => none) [0, 42] [42] = .ok := by decide
example : validateContent toyEnv {} (fun _ => none) [0, 41] [42] = .err := by decide
example : validateContent toyEnv {} (fun _ => none) [3, 42, 0, 0, 0, 0, 0, 0, 0] [42] = .ok := by decide
example : validateContent toyEnv {} (fun _ => none) [0, 200] [200] = .err := by decide
-- receipts
example : validateContent toyEnv {} (fun _ => some [42]) [2, 42] [9] = .ok := by decide
example : validateContent toyEnv {} (fun _ => some [42]) [2, 42] [] = .err := by decide
-- `Bound` holds of the accepted pair (so `accept_sound` is not vacuous) and fails of another (so `reject_total` is not)
example : Bound toyEnv [1, 42] [7, 8] := accept_sound toyEnv (fun _ => some [42]) _ _ (by decide)
example : ¬ Bound toyEnv [1, 42] [7, 9] := by
  rintro ⟨b, hd, hb, ⟨⟨bytes, hdec⟩, _⟩, _, hu, _⟩
  cases hb
  -- every header `toyEnv` decodes has uncle root [8]
  match bytes, hdec with
  | [n], hdec =>
    cases hdec
    cases hu
-- the gate: accepted items are stored, a key that is already stored (before the call or by it) is skipped, and the call
-- ends at the first rejected item
example : (Hg.gate (validateContent toyEnv {} (fun _ => some [42])) [([2, 42], [1])]
            [([1, 42], [7, 8]), ([2, 42], [5]), ([1, 42], [7, 9]), ([0, 42], [42])]).2
          = ([([1, 42], [7, 8]), ([0, 42], [42])], .ok) := by decide
example : (Hg.gate (validateContent toyEnv {} (fun _ => some [42])) []
            [([0, 42], [42]), ([2, 42], [5]), ([1, 42], [7, 8])]).2 = ([([0, 42], [42])], .err) := by decide

#print axioms accept_sound
#print axioms accepted_header_by_hash
#print axioms accepted_header_by_number
#print axioms accepted_body
#print axioms accepted_receipts
#print axioms accepted_body_matches_the_header
#print axioms accepted_receipts_match_the_header
#print axioms reject_total
#print axioms never_panics
#print axioms oracle_returns_requested_header
#print axioms put_gated
#print axioms getter_returns_bound
#print axioms store_only_holds_bound_content
#print axioms driver_model_is_the_model
#print axioms accept_iff_bound_obs
#print axioms oracle_unbound_breaks_C02
#print axioms legacy_body_breaks_C02
#print axioms nil_withdrawals_hash_breaks_C02
#print axioms header_proof_panics_breaks_C02
#print axioms empty_key_breaks_C02
end Props.C02
