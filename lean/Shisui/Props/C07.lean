import Shisui.Table.Reval
/-! # C07 — Routing table structural invariants hold after every operation

Model: `Tb` (`portalwire/table.go`, `table_reval.go`). Operations `Tb.Op2`: add (found / inbound / forced live), delete,
revalidation answer (dead / alive / alive with new record), lookup feedback (failure count, found nodes); the random picks
(`rand.Intn` in `deleteInBucket`) are operation parameters, so the theorems hold for every pick. The bucket map `bo` is any
function into `[0,17)`; the driver instantiates it with `bucketAtDistance ∘ LogDist` and checks the real table agrees.
Revalidation *list* bookkeeping (fast/slow slices, activeReq, and the panics guarding them) is not part of the proved
invariant: it is modelled executably in the driver and checked on every snapshot (see DESIGN §5 C07). -/
namespace Props.C07
open Tb

/-- one step from any table satisfying the invariant (the form used for tables not built from scratch); neither this
    proof nor that of `inv_reachable` uses `hw`: the invariant survives a revalidation answer carrying another node's record -/
theorem inv_step (bo : Nat → Nat) (hbo : ∀ id, bo id < nBuckets) (t : Table) (op : Op2) (hw : op.wf) (h : Inv bo t) :
    Inv bo (step2 bo t op) := Tb.step2_inv bo hbo t op h

/-- "Whatever sequence of discoveries, inbound contacts, liveness results, record updates, lookup feedback and deletions
    occurs": the invariant holds in every reachable table -/
theorem inv_reachable (bo : Nat → Nat) (hbo : ∀ id, bo id < nBuckets) (me : Nat) (ops : List Op2)
    (hw : ∀ op ∈ ops, op.wf) : Inv bo (ops.foldl (step2 bo) (emptyTable me)) := Tb.inv_reachable2 bo hbo me ops

/-- what the invariant says, in the words of the property: "no bucket holds more than 16 entries or 10 replacements; a
    node id appears at most once in the whole table and the local node never; every node sits in the bucket for its
    log-distance from the local id; and among non-LAN addresses no bucket holds more than 2 and the table no more than 10
    nodes from one /24" -/
theorem inv_meaning (bo : Nat → Nat) (t : Table) (h : Inv bo t) (i : Nat) :
    (t.bkt i).entries.length ≤ 16 ∧ (t.bkt i).reps.length ≤ 10 ∧
    (∀ n ∈ (t.bkt i).entries ++ (t.bkt i).reps, bo n.r.id = i ∧ n.r.id ≠ t.self) ∧
    (((t.bkt i).entries ++ (t.bkt i).reps).map (·.r.id)).Nodup ∧
    (∀ s, real ((t.bkt i).entries ++ (t.bkt i).reps) s ≤ 2) ∧ (∀ s, sumReal t s ≤ 10) :=
  have B := h.b i
  ⟨B.sizeE, B.sizeR, fun n hn => ⟨(B.place n hn).1, (B.place n hn).2.1⟩, B.nodup,
   fun s => Nat.le_trans (B.cnt s).1 (B.cnt s).2, fun s => Nat.le_trans (h.tcnt s).1 (h.tcnt s).2⟩

/-- table-wide uniqueness, the part across buckets: two nodes with one id sit in the same bucket, by placement
    (within a bucket the `Nodup` clause of `inv_meaning` applies) -/
theorem id_unique_table (bo : Nat → Nat) (t : Table) (h : Inv bo t) (i j : Nat) (a b : TNode)
    (ha : a ∈ (t.bkt i).entries ++ (t.bkt i).reps) (hb : b ∈ (t.bkt j).entries ++ (t.bkt j).reps)
    (hid : a.r.id = b.r.id) : i = j := by
  have h1 := ((h.b i).place a ha).1
  have h2 := ((h.b j).place b hb).1
  rw [← h1, ← h2, hid]

-- non-vacuity: a reachable table with one entry
example : ((step2 (fun _ => 3) (emptyTable 0)
    (.add { id := 7, addr := { subnet := 5, host := 1, lan := false, valid := true }, port := 1, seq := 1 } false true)).bkt 3).entries.length = 1 := by
  decide

#print axioms inv_step
#print axioms inv_reachable
#print axioms inv_meaning
#print axioms id_unique_table
end Props.C07
