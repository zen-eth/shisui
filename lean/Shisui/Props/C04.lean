import Shisui.Store.Refinement
/-! # C04 — Stored content is returned intact and nothing else is

Model with values: `Sv` (`Get` and `Put` of `storage/pebble/storage.go`), refinement to "value of the last accepted put per id".
Pruning is abstracted by `PruneOf` (keeps a prefix of the ascending key list — which prefix is C05's business).
Values are immutable in the model; on the Go side "the bytes handed back stay unchanged" is a statement about buffer
lifetime (`Get` copies pebble's buffer before closing the reader); no theorem speaks of it, the harness carries it: every slice
`Get` has returned is kept and compared again after later operations (monitor `returned_bytes_stable`). -/
namespace Props.C04
open Sv

/-- "a refused put changes nothing observable" -/
theorem refused_put_noop (prune : Store → Store) (s : Store) (k : Nat) (v : Val)
    (h : (put prune s k v).2 = .insufficientRadius) : (put prune s k v).1 = s := by
  by_cases hlt : k < s.radius
  · rw [put_of_lt prune hlt] at h; cases h
  · rw [put_of_not_lt prune hlt]

/-- "Once a put is accepted, a get for the same 32-byte content id returns exactly the bytes that were put until that item is
    pruned", and other ids are unaffected (or pruned) -/
theorem get_after_put (prune : Store → Store) (hp : ∀ s, PruneOf s (prune s)) (s : Store) (k : Nat) (v : Val)
    (h : (put prune s k v).2 = .ok) :
    (get k (put prune s k v).1.items = some v ∨ get k (put prune s k v).1.items = none) ∧
    (∀ k', k' ≠ k → get k' (put prune s k v).1.items = get k' s.items ∨ get k' (put prune s k v).1.items = none) := by
  by_cases hlt : k < s.radius
  · rw [put_of_lt prune hlt]
    have hg := settle_kept hp (added s k v)
    refine ⟨?_, fun k' hk' => ?_⟩
    · have := hg k; rwa [get_added, if_pos rfl] at this
    · have := hg k'; rwa [get_added, if_neg hk'] at this
  · rw [put_of_not_lt prune hlt] at h; cases h

/-- "a get never returns bytes that were not put under that id": the refinement step -/
theorem get_only_put (prune : Store → Store) (hp : ∀ s, PruneOf s (prune s)) (s : Store) (spec : Spec)
    (k : Nat) (v : Val) (href : Refines s spec) :
    Refines (put prune s k v).1
      (if (put prune s k v).2 = .ok then (fun k' => if k' = k then some v else spec k') else spec) :=
  Sv.put_refines prune hp s spec k v href

/-- the ghost map after a history -/
def specRun (prune : Store → Store) : Store → Spec → List (Nat × Val) → Store × Spec
  | s, sp, [] => (s, sp)
  | s, sp, (k, v) :: ops =>
    specRun prune (put prune s k v).1
      (if (put prune s k v).2 = .ok then (fun k' => if k' = k then some v else sp k') else sp) ops

/-- by induction every reachable store refines the ghost map of last accepted puts: after every put/overwrite history
    whatever `get` returns is the latest accepted put for that id (the put-only case of `get_only_put_with_reopen`) -/
theorem get_only_put_reachable (prune : Store → Store) (hp : ∀ s, PruneOf s (prune s)) (ops : List (Nat × Val)) :
    ∀ (s : Store) (sp : Spec), Refines s sp → Refines (specRun prune s sp ops).1 (specRun prune s sp ops).2 := by
  induction ops with
  | nil => intro s sp h; exact h
  | cons op ops ih =>
    intro s sp h
    obtain ⟨k, v⟩ := op
    exact ih _ _ (Sv.put_refines prune hp s sp k v h)

/-- "…and across close and reopen": an id returns after close + reopen (with any capacity) what it returned before, or
    nothing if the open pruned it; a store that fits its capacity comes back item for item -/
theorem get_across_reopen (prune : Store → Store) (hp : ∀ s, PruneOf s (prune s)) (maxR : Nat) (s : Store) (cap k : Nat) :
    (get k (reopen prune maxR s cap).items = get k s.items ∨ get k (reopen prune maxR s cap).items = none) ∧
    (s.tracked ≤ cap → (reopen prune maxR s cap).items = s.items) :=
  ⟨Sv.reopen_get prune hp maxR s cap k, fun h => by rw [reopen_items, settle_of_le prune (s := ⟨s.items, s.tracked, maxR, cap⟩) h]⟩

/-- every history mixing puts, overwrites and close/reopen with any capacities: whatever `get` returns is the value of the
    latest accepted put for that id -/
theorem get_only_put_with_reopen (prune : Store → Store) (hp : ∀ s, PruneOf s (prune s)) (maxR : Nat) (ops : List Op)
    (s : Store) (sp : Spec) (h : Refines s sp) :
    Refines (runOps prune maxR s sp ops).1 (runOps prune maxR s sp ops).2 := by
  induction ops generalizing s sp with
  | nil => exact h
  | cons op ops ih =>
    cases op with
    | put k v => exact ih _ _ (Sv.put_refines prune hp s sp k v h)
    | reopen cap => exact ih _ _ (h.of_kept (Sv.reopen_get prune hp maxR s cap))

/-- ids that differ (even in a single bit) have different keys: xor with the node id is injective -/
theorem xor_key_injective (node a b : Nat) (h : a ^^^ node = b ^^^ node) : a = b := by
  have := congrArg (· ^^^ node) h
  simpa [Nat.xor_assoc] using this

/-- the key of an id is the reserved counter key 0 only for the node id itself -/
theorem key_zero_iff (node a : Nat) : a ^^^ node = 0 ↔ a = node := by
  constructor
  · intro h; exact xor_key_injective node a node (by rw [h, Nat.xor_self])
  · intro h; rw [h, Nat.xor_self]

example : get 5 (reopen id 100 { items := ins 5 [1, 2] [], tracked := 34, radius := 100, cap := 50 } 40).items = some [1, 2] :=
  rfl

example : get 5 (ins 5 [1, 2] (ins 5 [9] [])) = some [1, 2] := rfl   -- overwrite returns the new bytes
example : get 5 (ins 5 [] []) = some [] := rfl                        -- empty value

#print axioms refused_put_noop
#print axioms get_after_put
#print axioms get_only_put
#print axioms get_only_put_reachable
#print axioms get_across_reopen
#print axioms get_only_put_with_reopen
#print axioms xor_key_injective
#print axioms key_zero_iff
end Props.C04
