import Shisui.Store.Crash
import Shisui.Store.Refinement
/-! # C17 — Restart and crash leave a consistent store

Model: `St.images` — the database image after every committed batch of a put history (put: {item, counter} in one batch;
prune: {deletes, counter} in a second, synced batch); a crash leaves the image after SOME prefix of the batches (assumption
on pebble: batches are atomic, at most a suffix of unsynced batches is lost — validated on every run against the real
pebble over a power-cut file system); `St.reopen` = `NewStorage` on an image. Ideal (big-endian) reading; the radius clause
inherits the little-endian known finding of C06. -/
namespace Props.C17
open St

/-- "the persisted usage figure is not below the bytes actually present": every image along every put history is consistent -/
theorem crash_images_ok (s : Store) (ops : List (Nat × Nat)) (h : Inv s) (hk : ∀ op ∈ ops, 0 < op.1) :
    ∀ d ∈ images s ops, DiskOk d := by
  induction ops generalizing s with
  | nil => exact fun _ hd => nomatch hd
  | cons op rest ih =>
    have ⟨hop, hrest⟩ := List.forall_mem_cons.mp hk
    intro d hd
    rcases List.mem_append.mp hd with hd | hd
    · exact batches_ok s op.1 op.2 hop h d hd
    · exact ih _ (put_inv s op.1 op.2 hop h).1 hrest d hd

/-- the last image of a put is the state the store is in when the put returns (no crash = nothing lost) -/
theorem last_image (s : Store) (k v : Nat) (d : Disk) (h : (batchesOfPut s k v).getLast? = some d) :
    d.items = (put s k v).1.items ∧ d.counter = (put s k v).1.tracked := by
  by_cases hlt : k < s.radius
  · rw [getLast?_batchesOfPut hlt] at h
    cases h; exact ⟨rfl, rfl⟩
  · rw [batchesOfPut_of_not_lt hlt] at h; cases h

/-- "reopening the store succeeds": on any consistent image the reopened store satisfies the full store invariant, so
    everything proved about puts (C04–C06) holds for "further operations" after the reopen -/
theorem reopen_inv (d : Disk) (cap : Nat) (h : DiskOk d) (hkeys : ∀ e ∈ d.items, e.1 ≤ maxRadius) :
    Inv (reopen d cap) := by
  have h1 := (settle_inv (load_inv h hkeys cap)).1
  rw [reopen_eq]
  split
  · exact rederive_inv h1
  · exact h1

/-- "An over-capacity store is pruned on open" -/
theorem open_prunes_overcap (d : Disk) (cap : Nat) (h : DiskOk d) (hkeys : ∀ e ∈ d.items, e.1 ≤ maxRadius)
    (hover : d.counter > cap) :
    (reopen d cap).items = [] ∨ cap / 20 ≤ d.counter - (reopen d cap).tracked := by
  rw [reopen_eq, if_pos (Nat.lt_of_le_of_lt (mul_19_div_20_le cap) hover), settle_of_gt (s := load d cap) hover]
  rw [rederive_items, rederive_tracked]
  exact prune_frees _ (load_inv h hkeys cap)

/-- "the radius is re-derived from the farthest retained item when the store is more than 95% full and is the maximum
    otherwise" -/
theorem open_radius_rule (d : Disk) (cap : Nat) :
    (d.counter ≤ cap * 19 / 20 → (reopen d cap).radius = maxRadius ∧ (reopen d cap).items = d.items) ∧
    (d.counter > cap * 19 / 20 → ∀ e, (reopen d cap).items.getLast? = some e → (reopen d cap).radius = e.1) := by
  rw [reopen_eq]
  refine ⟨fun h => ?_, fun h e he => ?_⟩
  · rw [if_neg (Nat.not_lt.mpr h), settle_of_le (s := load d cap) (Nat.le_trans h (mul_19_div_20_le cap))]
    exact ⟨rfl, rfl⟩
  · rw [if_pos h] at he ⊢
    rw [rederive_items] at he
    rw [rederive_radius]
    exact farthest_of_getLast? he _

/-- towards "every item it returns is byte-identical to an item that was put under that id": one put keeps "whatever `get`
    returns is the value of the last accepted put for that id" (the statement of `Props.C04.get_only_put`). A crash image is
    the image after a prefix of the batches; applying this step along the puts of that prefix is left to the reader, no
    theorem here speaks of `St.images` -/
theorem crash_items_genuine (prune : Sv.Store → Sv.Store) (hp : ∀ s, Sv.PruneOf s (prune s)) (s : Sv.Store) (spec : Sv.Spec)
    (k : Nat) (v : Sv.Val) (href : Sv.Refines s spec) :
    Sv.Refines (Sv.put prune s k v).1
      (if (Sv.put prune s k v).2 = .ok then (fun k' => if k' = k then some v else spec k') else spec) :=
  Sv.put_refines prune hp s spec k v href

example : DiskOk { items := [(3, 50), (5, 400)], counter := 600 } := by
  unfold DiskOk AllLt
  decide

/-- NEGATIVE: the item outside the batch of its size record: some crash image under-reports -/
theorem split_put_underreports :
    (St.batchesOfPutItemFirst (St.init 1000) 5 400).any St.underReports = true := by decide

/-- NEGATIVE: the size record of a pruning pass ahead of its deletes: some crash image under-reports -/
theorem size_before_deletes_underreports :
    (St.batchesOfPutSizeBeforeDeletes (St.run (St.init 1000) [(5, 400), (9, 400), (7, 100)]) 3 50).any St.underReports = true := by
  decide

#print axioms crash_images_ok
#print axioms last_image
#print axioms reopen_inv
#print axioms open_prunes_overcap
#print axioms open_radius_rule
#print axioms crash_items_genuine
#print axioms split_put_underreports
#print axioms size_before_deletes_underreports
end Props.C17
