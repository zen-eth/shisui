import Shisui.FindContent
import Shisui.PacketSize
import Shisui.Framing
import Shisui.Versions
/-! # C08 — FINDCONTENT yields exactly the stored bytes, else closer peers, in one packet

Model: the three-way split of `handleFindContent` on `len(content) ≤ maxPacketSize − talkRespOverhead − 2` (`reply`, defined
here); `Fc.enrsReply` (closest 32 in any log-distance-sorted order, requester removed, `truncateNodes`); `Fr.utpEnc/utpDec`
for the stream framing; `Pk.talkRespSize` for the datagram size. uTP itself (reliable ordered stream) is trusted. -/
namespace Props.C08

inductive Reply where
  | raw (c : List Nat)
  | connId
  | enrs (l : List Fc.N)

/-- `handleFindContent` decision -/
def reply (stored : Option (List Nat)) (sorted : List Fc.N) (asker : Nat) : Reply :=
  match stored with
  | none => .enrs (Fc.enrsReply sorted asker (1280 - 103 - 2))
  | some c => if c.length ≤ 1280 - 103 - 2 then .raw c else .connId

/-- "When a peer asks for a key the node holds, the bytes the peer ends up with - inline when they fit one packet, … -
    equal the stored bytes" -/
theorem found_small (c : List Nat) (sorted : List Fc.N) (asker : Nat) (h : c.length ≤ 1175) :
    reply (some c) sorted asker = .raw c := if_pos h

/-- "… otherwise over the uTP stream the reply announces - equal the stored bytes, for either protocol version": both sides
    negotiate the same version `m` (C19), and the framing is inverted exactly -/
theorem found_large (c : List Nat) (sorted : List Fc.N) (asker : Nat) (a b : List Nat) (m : Nat)
    (h : 1175 < c.length) (hc : c.length < 2 ^ 32) (hv : Vs.biggestCommon a b = some m) :
    reply (some c) sorted asker = .connId ∧
    ∃ m', Vs.biggestCommon b a = some m' ∧ Fr.utpDec m' (Fr.utpEnc m c) = some c :=
  ⟨if_neg (Nat.not_le.mpr h), m, Vs.biggestCommon_comm a b ▸ hv, Fr.utp_roundtrip m c hc⟩

/-- "When the node does not hold it, the reply lists only records from its routing table in order of non-decreasing
    log-distance to the content id and never the asker's own record" (for any sorted ordering the unstable sort produced) -/
theorem not_found (sorted : List Fc.N) (asker : Nat) (hs : Fc.SortedLog sorted) (hnd : (sorted.map (·.id)).Nodup) :
    ∃ l, reply none sorted asker = .enrs l ∧ l.Sublist sorted ∧ Fc.SortedLog l ∧ (∀ n ∈ l, n.id ≠ asker) ∧ Fc.size l ≤ 1175 :=
  ⟨_, rfl, Fc.enrs_rule sorted asker (1280 - 103 - 2) hs hnd⟩

/-- "every reply fits in one discv5 packet": CONTENT message = 1 id byte + 1 selector + body ≤ 1177 bytes in all three
    branches, hence a datagram ≤ 1280 for every request id of at most 8 bytes -/
theorem one_packet (stored : Option (List Nat)) (sorted : List Fc.N) (asker reqId : Nat) (s1 s2 : Bool) (hr : reqId ≤ 8)
    (hs : Fc.SortedLog sorted) (hnd : (sorted.map (·.id)).Nodup) :
    let body := match reply stored sorted asker with
      | .raw c => c.length
      | .connId => 2
      | .enrs l => Fc.size l
    Pk.talkRespSize reqId (2 + body) s1 s2 ≤ 1280 := by
  have key : ∀ body, body ≤ 1175 → Pk.talkRespSize reqId (2 + body) s1 s2 ≤ 1280 :=
    fun body hb => Pk.fits reqId _ s1 s2 hr (show 2 + body ≤ 1177 from Nat.add_le_add_left hb 2)
  cases stored with
  | none =>
    -- `reply none sorted asker` unfolds to `.enrs (Fc.enrsReply …)`, so `body` is by definition the size of a `Fc.truncate`
    exact key _ (Fc.size_truncate_le _ _)
  | some c =>
    by_cases hc : c.length ≤ 1280 - 103 - 2
    · simp only [reply, hc, if_true]
      exact key _ hc
    · simp only [reply, hc, if_false]
      exact key 2 (by decide)

example : reply (some [1, 2, 3]) [] 0 = .raw [1, 2, 3] := found_small _ _ _ (by decide)

#print axioms found_small
#print axioms found_large
#print axioms not_found
#print axioms one_packet
end Props.C08
