import Shisui.Permits
import Shisui.PermitsFlow
/-! # C16 — Transfer slots are bounded and always given back

Model: `Pm` — a pool of `limit` slots (`semaphore.Weighted`), offers that hold a release-once permit (`ReleasePermit`,
CompareAndSwap on the released flag), and any interleaving of: acquisition, an offer leaving through an exit that does or
does not call `Release`, and repeated `Release` calls. The inbound and the outbound pool are two independent instances.
The exits of `offer`, `processOffer`, the sending goroutine and the `handleOffer` goroutine are read off the code by hand as an
exit table (`Shisui/PermitsFlow.lean`: `Pm.Out`, `Pm.In`, `outCalls`, `inCalls`, `stepsOfCalls`); the table, and the gossip loop,
are tied to the real code by scripted outcomes (correspondence), not statically. -/
namespace Props.C16
open Pm

/-- "At no time are more inbound or more outbound offer transfers in progress than the configured limit" — every
    interleaving of acquisitions, exits and repeated releases -/
theorem held_le_limit (limit : Nat) (steps : List Step) :
    holding (steps.foldl step { avail := limit, offers := [] }).offers ≤ limit := Pm.held_le_limit limit steps

/-- "every slot taken for an offer … is returned exactly once": a slot is returned at most once and never invented -/
theorem conservation (limit : Nat) (steps : List Step) :
    (steps.foldl step { avail := limit, offers := [] }).avail +
      holding (steps.foldl step { avail := limit, offers := [] }).offers = limit := Pm.inv_reachable limit steps

/-- "Once activity has ceased the full number of slots is available again": if every offer has released its permit -/
theorem quiescent_full (limit : Nat) (steps : List Step)
    (h : ∀ o ∈ (steps.foldl step { avail := limit, offers := [] }).offers, o.released = true) :
    (steps.foldl step { avail := limit, offers := [] }).avail = limit := Pm.quiescent_full limit steps h

example : holding ([Step.acquire, .acquire, .exit 0 true, .again 0, .acquire].foldl step { avail := 2, offers := [] }).offers = 2 := by decide

/-- the exit table: every way an outbound offer that holds a slot can end makes at least one `Release()` call -/
theorem every_outbound_exit_releases (o : Out) : outCalls o ≠ [] := by cases o <;> exact List.cons_ne_nil _ _

/-- the exit table: every way an inbound transfer that holds a slot can end makes at least one `Release()` call -/
theorem every_inbound_exit_releases (o : In) : inCalls o ≠ [] := by cases o <;> exact List.cons_ne_nil _ _

/-- "every slot taken for an offer … is returned exactly once whatever the outcome": a path that makes one or more `Release()`
    calls on a held permit frees exactly one slot (the deferred call after the explicit one changes nothing) -/
theorem slot_returned_exactly_once (s : Sys) (i : Nat) (calls : List Call) (hne : calls ≠ []) (hi : i < s.offers.length)
    (hheld : isReleased s i = false) :
    ((stepsOfCalls i calls).foldl step s).avail = s.avail + 1 := by
  obtain ⟨c, rest, rfl⟩ := List.exists_cons_of_ne_nil hne
  exact releases_return_once s i _ (stepsOfCalls_release i c rest) (List.cons_ne_nil _ _) hi hheld

theorem released_is_stable (s : Sys) (steps : List Step) (j : Nat) (h : isReleased s j = true) :
    isReleased (steps.foldl step s) j = true :=
  List.foldlRecOn steps step h fun s h st _ => released_mono s st j h

/-- "Once activity has ceased the full number of slots is available again", without assuming the final state: in every
    interleaving in which each offer that took a slot later made at least one `Release()` call, all slots are free. The exit
    table supplies the hypothesis, though the composition is not a theorem here: every path makes a call
    (`every_outbound_exit_releases`, `every_inbound_exit_releases`) and the steps of such a path are `Release()` calls on its
    offer (`stepsOfCalls_release`). -/
theorem quiescent_full_of_exit_table (limit : Nat) (steps : List Step)
    (h : ∀ i, i < (run limit steps).offers.length →
      ∃ pre c post, steps = pre ++ c :: post ∧ i < (run limit pre).offers.length ∧ callsRelease i c = true) :
    (run limit steps).avail = limit := by
  refine Pm.quiescent_full limit steps fun o ho => ?_
  obtain ⟨i, hio⟩ := List.mem_iff_getElem?.mp ho
  obtain ⟨pre, c, post, rfl, hpre, hc⟩ := h i (List.getElem?_eq_some_iff.mp hio).1
  -- the call marks offer `i` released, and it stays so to the end
  have := released_is_stable _ post i (call_marks (run limit pre) c i hpre hc)
  rw [List.foldl_append, List.foldl_cons] at hio
  rw [isReleased_iff, getElem?_flags, run, hio] at this
  exact Option.some.inj this

example : (run 1 ([Step.acquire] ++ stepsOfCalls 0 (inCalls (.readDone true)) ++ [Step.acquire])).avail = 0 := by decide

#print axioms held_le_limit
#print axioms conservation
#print axioms quiescent_full
#print axioms every_outbound_exit_releases
#print axioms every_inbound_exit_releases
#print axioms slot_returned_exactly_once
#print axioms released_is_stable
#print axioms quiescent_full_of_exit_table
end Props.C16
