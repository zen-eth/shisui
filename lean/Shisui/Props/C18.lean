import Shisui.Table.Policy
/-! # C18 — Table entries are displaced only by failed liveness, never by newcomers
Same model as C07 (`Tb`). -/
namespace Props.C18
open Tb

/-- "When a bucket is full a newly seen node only enters the replacement list (most recent first, at most 10) and no
    entry is removed." -/
theorem full_bucket_newcomer (t : Table) (i : Nat) (r : Rec) :
    ((addReplacement t i r).bkt i).entries = (t.bkt i).entries ∧
    (((addReplacement t i r).bkt i).reps = (t.bkt i).reps ∨
     (∃ wn, wn.r = r ∧ (t.bkt i).reps.length < maxReps ∧ ((addReplacement t i r).bkt i).reps = wn :: (t.bkt i).reps) ∨
     (∃ wn, wn.r = r ∧ ¬ (t.bkt i).reps.length < maxReps ∧
        ((addReplacement t i r).bkt i).reps = wn :: (t.bkt i).reps.dropLast)) := Tb.full_bucket_newcomer t i r

/-- "no entry is removed" by any addition, from any bucket -/
theorem add_never_displaces (bo : Nat → Nat) (t : Table) (r : Rec) (inb fl : Bool) (k : Nat) :
    ∀ id ∈ entryIds t k, id ∈ entryIds (handleAddNode bo t r inb fl).1 k := Tb.add_never_displaces bo t r inb fl k

/-- "An entry leaves only after failed liveness checks exhaust its credit, after five consecutive fruitless node queries
    while the bucket has at least four entries, or by explicit deletion" — for every operation from every table -/
theorem entry_leaves_only_if (bo : Nat → Nat) (t : Table) (op : Op2) (k x : Nat)
    (hx : x ∈ entryIds t k) (hgone : x ∉ entryIds (step2 bo t op) k) :
    (∃ rnd, op = .delete x rnd ∧ k = bo x) ∨
    (∃ oid rnd n, op = .revalFail x oid rnd ∧ k = bo x ∧ entryOf t k x = some n ∧ n.oid = oid ∧ n.checks / 3 = 0) ∨
    (∃ fails rnd found, op = .track x fails rnd found ∧ k = bo x ∧ fails ≥ 5 ∧ (t.bkt k).entries.length ≥ 4) :=
  Tb.entry_leaves_only_if bo t op k x hx hgone

/-- "and is then succeeded by a replacement if one exists" -/
theorem successor (t : Table) (i id rnd : Nat) (n : TNode)
    (hfind : (t.bkt i).entries.find? (fun m => m.r.id == id) = some n) (hreps : (t.bkt i).reps ≠ []) :
    ∃ rep, rep ∈ (t.bkt i).reps ∧
      ((deleteInBucket t i id rnd).bkt i).entries = (t.bkt i).entries.filter (fun m => m.r.id != id) ++ [rep] ∧
      ((deleteInBucket t i id rnd).bkt i).reps.length + 1 = (t.bkt i).reps.length := Tb.successor t i id rnd n hfind hreps

/-- "A stored record changes only to a higher sequence number (any change when the node itself contacted us), and an
    endpoint change clears its verified status." -/
theorem record_change (t : Table) (i : Nat) (nr : Rec) (inbound : Bool) (n : TNode)
    (hnd : ((t.bkt i).entries.map (·.r.id)).Nodup)
    (hfind : (t.bkt i).entries.find? (fun m => m.r.id == nr.id) = some n) :
    ∀ m ∈ ((bump t i nr inbound).1.bkt i).entries, m.r.id = nr.id →
      m.r = n.r ∨ (m.r = nr ∧ (nr.seq > n.r.seq ∨ inbound = true) ∧
                   ((nr.addr ≠ n.r.addr ∨ nr.port ≠ n.r.port) → m.live = false)) :=
  Tb.record_change t i nr inbound n hnd hfind

/-- liveness credit: failure divides by three, success adds one and verifies; neither touches the record -/
theorem credit_rule (m : TNode) : (failChecks m).checks = m.checks / 3 ∧ (failChecks m).r = m.r ∧
    (okChecks m).checks = m.checks + 1 ∧ (okChecks m).live = true ∧ (okChecks m).r = m.r := Tb.credit_rule m

#print axioms full_bucket_newcomer
#print axioms add_never_displaces
#print axioms entry_leaves_only_if
#print axioms successor
#print axioms record_change
#print axioms credit_rule
end Props.C18
