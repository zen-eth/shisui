import Shisui.Framing
/-! # C15 — Content stream framing round-trips and rejects malformed streams

Model (bytes are `Nat`s): `Fr.enc/dec` (wabin LEB128, Varint.lean); `Fr.encSingle/decSingle` (`encode/decodeSingleContent`),
`Fr.encContents/decContents` (`encodeContents/decodeContents`) and `Fr.utpEnc/utpDec` (`encode/decodeUtpContent`), all in
Framing.lean, where the lemmas are. -/
namespace Props.C15
open Fr

/-- "Splitting a uTP stream into content items inverts joining them for any list of byte strings, empty
    items included." (Go's `uint32(len(data))` is exact for items shorter than 2^32 bytes.) -/
theorem contents_roundtrip (xs : List (List Nat)) (h : ∀ x ∈ xs, x.length < 2 ^ 32) :
    decContents (encContents xs) = some xs := Fr.contents_roundtrip xs h

example : decContents (encContents [[1, 2, 3], [], [9]]) = some [[1, 2, 3], [], [9]] :=
  contents_roundtrip _ (by decide)

/-- "A stream that is truncated … is rejected with an error rather than split differently." -/
theorem truncated_never_resplits (xs : List (List Nat)) (h : ∀ x ∈ xs, x.length < 2 ^ 32) (p t : List Nat)
    (hp : p ++ t = encContents xs) : decContents p = none ∨ ∃ k, decContents p = some (xs.take k) :=
  Fr.prefix_never_resplits xs h p t hp

/-- "… whose length prefix exceeds the remaining bytes … is rejected": stated for the first item of the stream. -/
theorem overlong_prefix_rejected (data : List Nat) (len hdr : Nat) (hne : data ≠ [])
    (hd : dec data = some (len, hdr)) (hlong : data.length < hdr + len) : decContents data = none :=
  decContents_of_none hne (Fr.overlong_prefix_rejected data len hdr hd hlong)

/-- "… or whose varint overflows 32 bits is rejected": no decoded length reaches 2^32, and a stream whose
    varint does not decode (cut, longer than 5 bytes, or ≥ 2^32) is rejected as a whole. -/
theorem varint_overflow_rejected (data : List Nat) (hb : ∀ b ∈ data, b < 256) :
    (∀ v n, dec data = some (v, n) → v < 2 ^ 32) ∧ (data ≠ [] → dec data = none → decContents data = none) :=
  ⟨fun _ _ => dec_lt, fun hne h => decContents_of_none hne (decSingle_of_dec_none h)⟩

example : dec [0xff, 0xff, 0xff, 0xff, 0x10] = none := by decide        -- 2^32: rejected
example : dec [0xff, 0xff, 0xff, 0xff, 0x0f] = some (2 ^ 32 - 1, 5) := by decide

/-- "a single-item stream is accepted only if its prefix covers exactly the remaining bytes" -/
theorem single_exact (s c : List Nat) (h : utpDec 1 s = some c) :
    ∃ len hdr, dec s = some (len, hdr) ∧ len = c.length ∧ s.length = hdr + len ∧ s.drop hdr = c :=
  Fr.single_exact s c h

example : utpDec 1 [2, 7, 8] = some [7, 8] ∧ utpDec 1 [2, 7, 8, 9] = none ∧ utpDec 1 [3, 7, 8] = none := by decide

/-- single-item framing round-trips for every version (1 = prefixed, others raw) -/
theorem utp_roundtrip (v : Nat) (d : List Nat) (h : d.length < 2 ^ 32) : utpDec v (utpEnc v d) = some d :=
  Fr.utp_roundtrip v d h

/-- the size of a joined stream follows from the item lengths alone: every item contributes its LEB128 prefix and itself -/
theorem stream_length (xs : List (List Nat)) : (encContents xs).length = streamLen (xs.map List.length) :=
  Fr.encContents_length xs

/-- the prefix takes its fifth byte exactly from 2^28 on (every length a 32-bit prefix can carry: below 2^32) -/
theorem prefix_bytes (n : Nat) (h : n < 2 ^ 32) : (2 ^ 28 ≤ n → lebLen n = 5) ∧ (n < 2 ^ 28 → lebLen n ≤ 4) :=
  ⟨fun h1 => lebLen_five n h1 (Nat.lt_trans h (by decide)), fun h4 => lebLen_le_iff.mpr h4⟩

example : streamLen [3, 2 ^ 28] = 4 + 2 ^ 28 + 5 := by
  rw [streamLen, streamLen, lebLen_small 3 (by decide), lebLen_five (2 ^ 28) (Nat.le_refl _) (by decide)]
  rfl

#print axioms contents_roundtrip
#print axioms truncated_never_resplits
#print axioms overlong_prefix_rejected
#print axioms varint_overflow_rejected
#print axioms single_exact
#print axioms utp_roundtrip
#print axioms stream_length
#print axioms prefix_bytes
end Props.C15
