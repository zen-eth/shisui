import Shisui.Store.Exec
import Shisui.FindContent
import Shisui.Beorder
/-! # C06 — Radius, admission and retained content agree under the XOR metric

Ideal model (`St`, distance = big-endian value of xor(contentId,nodeId) = pebble's key order by `key_order_is_big_endian`).
The code deviates at the three sites that read a key with `uint256.UnmarshalSSZ` (little-endian); `le_reading_breaks_C06`
proves, on an explicit history of the *executable* model with that switch on, that a retained item then lies beyond the
advertised radius — a known finding (a baseline test pins the little-endian byte image). The driver checks the real
store against the model with the switch on, exactly. -/
namespace Props.C06
open St

/-- "At all times every retained item lies within the advertised radius … and the radius only shrinks during a run":
    every state reached from an empty store by any put history -/
theorem retained_within_and_antitone (cap : Nat) (ops : List (Nat × Nat)) (h : ∀ op ∈ ops, 0 < op.1) :
    (∀ e ∈ (run (init cap) ops).items, e.1 ≤ (run (init cap) ops).radius) ∧
    (run (init cap) ops).radius ≤ (init cap).radius := by
  have := St.run_inv ops (init cap) h (init_inv cap)
  exact ⟨fun e he => (this.1.within e he).2, this.2.1⟩

/-- "the radius only shrinks during a run": one put, from any state satisfying the invariant -/
theorem radius_antitone_step (s : Store) (k v : Nat) (hk : 0 < k) (h : Inv s) : (put s k v).1.radius ≤ s.radius :=
  (St.put_inv s k v hk h).2

/-- "a put is refused for insufficient radius only when its distance is not below the radius" (and conversely) -/
theorem refusal_exact (s : Store) (k v : Nat) : (put s k v).2 = .insufficientRadius ↔ ¬ k < s.radius := by
  by_cases hlt : k < s.radius
  · rw [put_of_lt hlt]; exact iff_of_false nofun (not_not_intro hlt)
  · rw [put_of_not_lt hlt]; exact iff_of_true rfl hlt

/-- "The in-range test used to filter offers, to answer the store RPC and to pick gossip targets applies this same
    rule": in range ⇔ xor distance < radius -/
theorem inRange_iff (node radius content : Nat) :
    Fc.inRange false node radius content = true ↔ (node ^^^ content) < radius := Fc.inRange_iff node radius content

/-- "Distance is the XOR … read as a big-endian 256-bit number": that number's order is pebble's bytewise key order -/
theorem key_order_is_big_endian (a b : List Nat) (hl : a.length = b.length) (ha : Be.Bytes a) (hb : Be.Bytes b) :
    Be.lexLt a b = true ↔ Be.beVal a < Be.beVal b := by
  induction a generalizing b with
  | nil => cases b with
    | nil => simp [Be.lexLt]
    | cons y ys => cases hl
  | cons x xs ih => cases b with
    | nil => cases hl
    | cons y ys =>
      have hl' : xs.length = ys.length := Nat.succ.inj hl
      simp only [Be.lexLt, Be.beVal, Bool.or_eq_true, decide_eq_true_eq, Bool.and_eq_true, beq_iff_eq,
        ih ys hl' ha.tail hb.tail]
      -- both sides over the same power `256 ^ ys.length`: leading digit times it, plus a remainder below it
      rw [hl']
      exact (Be.mul_add_lt_iff (hl' ▸ Be.beVal_lt xs ha.tail) (Be.beVal_lt ys hb.tail)).symm

/-- NEGATIVE result for the code as it is: with the little-endian reading switched on, after three puts and one
    prune the store keeps an item whose (big-endian) distance 10 exceeds the advertised radius 2. -/
theorem le_reading_breaks_C06 :
    let s0 : StX.Store := StX.empty 100
    let s1 := (StX.put true s0 { be := 10, le := 1, len := 10, val := 0 }).1
    let s2 := (StX.put true s1 { be := 20, le := 2, len := 10, val := 0 }).1
    let s3 := (StX.put true s2 { be := 30, le := 3, len := 10, val := 0 }).1
    s3.radius = 2 ∧ (s3.items.map (·.be)) = [10, 20] := by decide

/-- NEGATIVE result: comparing the radius with the log2 distance admits distance 7 under radius 4 -/
theorem logdist_inrange_breaks_C06 : Fc.inRange false 0 4 7 = false ∧ Fc.inRange true 0 4 7 = true :=
  Fc.quirk_inrange_logdist_breaks_C06

example : (run (init 1000) [(5, 400), (9, 400), (7, 100), (3, 50)]).radius = 7 := by decide

#print axioms retained_within_and_antitone
#print axioms radius_antitone_step
#print axioms refusal_exact
#print axioms inRange_iff
#print axioms key_order_is_big_endian
#print axioms le_reading_breaks_C06
#print axioms logdist_inrange_breaks_C06
end Props.C06
