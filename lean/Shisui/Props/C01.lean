import Shisui.DispatchVal
/-! # C01 — No remote input can crash or wedge the node

> For every byte string a peer can deliver — a TALKREQ payload on any portal sub-protocol or the uTP channel, a
> TALKRESP to one of our own requests, a uTP stream body, or an offered or looked-up content item together with its
> content key — the node produces a well-formed reply, an empty reply or a returned error. It never panics and the
> handling call returns.

The model is `Dp` (`Shisui/Dispatch.lean`, whose head says how Go's unguarded accesses become `Out.panic site`
outcomes behind the switches `Dp.Quirks`, and which holds the lemmas about its definitions;
`Shisui/DispatchVal.lean`). Four panics have no switch and are excluded by a hypothesis: a child index out of range
and a terminated key over a non-value in `traverseQ` (by `WfNode` and nibbles below 17), and the slices of a stored
summaries value shorter than 8 bytes in `beaconGet` / `sumPut` (by `SumWf`). The theorems below are about the model
with every switch off (`{}`): the code with a length / nil guard at each switched site. The section *Findings* states,
for the switches on, the concrete inputs that reach `panic`; the driver compares the real code with the switched model
and reports every panic of the real code as a violated clause `no_panic@<site>`.

What the model does not contain (DESIGN §7, "partial"): the byte-level decoders of dependencies (rlp, ztyp/zrnt
containers, ping-extension payloads, ENR signature checks), Merkle / hash verification and the uTP library. Where such
a dependency decides between a value and an error the model says `Out.handled`; panics or blocking inside them are
sampled by the correspondence run only. -/
namespace Dp

/-- a store holding summaries of epoch 5 -/
def envSum : Env := { sum := some ([5, 0, 0, 0, 0, 0, 0, 0], 17) }

theorem SumWf_envSum : SumWf envSum := by
  intro pre n h
  cases h
  exact ⟨by decide, rfl⟩

/-- non-vacuity: the ideal model answers the very inputs of the findings with an empty reply / a not-found reply / an error -/
theorem ideal_on_witnesses :
    handleTalk {} .history {} (some 1) [] = .empty ∧
    handleTalk {} .history {} (some 1) [4, 4, 0, 0, 0] = .reply 5 (some 2) ∧
    handleTalk {} .beacon envSum (some 1) [4, 4, 0, 0, 0, 0x14] = .reply 5 (some 2) ∧
    handleTalk {} .beacon envSum (some 1) [4, 4, 0, 0, 0, 0x14, 4, 0, 0, 0, 0, 0, 0, 0] = .reply 5 (some 1) ∧
    handleTalk {} .beacon envSum (some 1) [4, 4, 0, 0, 0, 0x14, 6, 0, 0, 0, 0, 0, 0, 0] = .reply 5 (some 2) ∧
    processContent {} [5] = .err :=
  ⟨rfl, rfl, rfl, rfl, rfl, rfl⟩

end Dp

namespace Props.C01
open Dp

/-! ## TALKREQ on a portal sub-protocol -/

/-- "the node produces a well-formed reply, an empty reply …": the reply is empty, or it carries the response code
    of the request that was sent (PONG for PING, NODES for FINDNODES, CONTENT for FINDCONTENT, ACCEPT for OFFER);
    the talk handler never returns an error. (Field-level well-formedness of each reply is C08 / C09 / C11.) -/
theorem talk_reply_or_empty (net : Net) (e : Env) (hw : SumWf e) (ver : Option Nat) (msg : List Nat) :
    handleTalk {} net e ver msg = .empty ∨
    ∃ c s, handleTalk {} net e ver msg = .reply c s ∧ msg.head? = some (c - 1) ∧ (c = 1 ∨ c = 3 ∨ c = 5 ∨ c = 7) := by
  fun_cases handleTalk {} net e ver msg
  case case1 => exact .inl rfl   -- the empty message, guarded
  case case2 body =>             -- PING
    fun_cases pingOut body
    case case1 => exact .inl rfl   -- undecodable
    case case2 => exact .inr ⟨1, none, rfl, rfl, .inl rfl⟩
  case case3 body =>             -- FINDNODES
    fun_cases findNodesOut body
    case case1 => exact .inl rfl   -- undecodable
    case case2 => exact .inr ⟨3, none, rfl, rfl, .inr (.inl rfl)⟩
  case case4 body =>             -- FINDCONTENT
    fun_cases findContentMsg {} net e body
    case case1 => exact .inl rfl   -- undecodable
    case case2 key _ =>
      rcases findContentOut_class net e hw key with h | ⟨s, h⟩
      · exact .inl h
      · exact .inr ⟨5, some s, h, rfl, .inr (.inr (.inl rfl))⟩
  case case5 body =>             -- OFFER
    fun_cases offerMsg {} net e ver body
    case case1 => exact .inl rfl   -- undecodable
    case case2 keys _ =>
      rcases offerOut_class net e hw ver keys with h | h
      · exact .inl h
      · exact .inr ⟨7, none, h, rfl, .inr (.inr (.inr rfl))⟩
  case case6 => exact .inl rfl   -- any other code

-- the hypothesis `SumWf` is met by the empty store and by a store holding summaries
example : SumWf {} := SumWf_empty
example : SumWf envSum := SumWf_envSum
-- replies of every kind occur: PONG, NODES, stored content inline, ACCEPT
example : handleTalk {} .history {} (some 1) [0, 1, 0, 0, 0, 0, 0, 0, 0, 0, 0, 14, 0, 0, 0] = .reply 1 none := rfl
example : handleTalk {} .state {} (some 1) [2, 4, 0, 0, 0, 0, 1] = .reply 3 none := rfl
example : handleTalk {} .state { held := [([0x20, 7], 100)] } (some 1) [4, 4, 0, 0, 0, 0x20, 7] = .reply 5 (some 1) := rfl
example : handleTalk {} .history {} (some 1) [6, 4, 0, 0, 0, 4, 0, 0, 0, 1] = .reply 7 none := rfl
example : handleTalk {} .history {} none [6, 4, 0, 0, 0, 4, 0, 0, 0, 1] = .empty := rfl

/-- "For every byte string a peer can deliver — a TALKREQ payload on any portal sub-protocol … It never panics":
    every network (history / beacon / state adapters), every store content, every sender version, every message. -/
theorem talk_never_panics (net : Net) (e : Env) (hw : SumWf e) (ver : Option Nat) (msg : List Nat) :
    (handleTalk {} net e ver msg).isPanic = false := by
  rcases talk_reply_or_empty net e hw ver msg with h | ⟨c, s, h, _⟩ <;> rw [h] <;> rfl

/-- unknown message codes are answered with the empty reply (an undecodable body of a known code: the first leaf of each
    handler in `talk_reply_or_empty`) -/
theorem talk_unknown_code_empty (net : Net) (e : Env) (ver : Option Nat) (c : Nat) (body : List Nat)
    (h : c ≠ 0 ∧ c ≠ 2 ∧ c ≠ 4 ∧ c ≠ 6) : handleTalk {} net e ver (c :: body) = .empty :=
  handleTalk_unknown {} net e ver c body h.1 h.2.1 h.2.2.1 h.2.2.2

/-- the dispatch skeleton is `Fc.handleTalk` of FindContent.lean, instantiated with the four handlers
    (whose panic-freedom is what `Fc.talk_no_panic` assumes and `talk_never_panics` establishes) -/
theorem talk_dispatch_is_Fc (q : Quirks) (hq : q.talkEmpty = false) (net : Net) (e : Env) (ver : Option Nat) (msg : List Nat) :
    toFc (handleTalk q net e ver msg) =
      Fc.handleTalk false (fun b => toFc (pingOut b)) (fun b => toFc (findNodesOut b))
        (fun b => toFc (findContentMsg q net e b)) (fun b => toFc (offerMsg q net e ver b)) msg := by
  fun_cases handleTalk q net e ver msg
  case case1 => rw [hq]; rfl   -- the empty message: both guarded
  case case6 h0 h2 h4 h6 => exact (Fc.handleTalk_unknown _ _ _ _ _ _ _ h0 h2 h4 h6).symm   -- any other code
  all_goals rfl                -- PING, FINDNODES, FINDCONTENT, OFFER: the same clause on both sides

/-- the invariant `talk_never_panics` assumes about stored historical summaries holds initially and is kept by every
    (ideal) `Put`, whatever key and content the peer chose -/
theorem summaries_invariant (e : Env) (hw : SumWf e) (body content : List Nat) :
    SumWf {} ∧ SumWf { e with sum := (sumPut {} e body content).2 } := by
  refine ⟨SumWf_empty, ?_⟩
  rcases (sumPut_ideal e hw body content).2 with hkept | ⟨hb, hreplaced⟩
  · rw [hkept]
    exact hw
  · rw [hreplaced]
    intro pre n hs
    cases hs
    exact ⟨hb ▸ Nat.le_add_right _ _, by simp [hb]⟩

/-! ## TALKREQ on the uTP channel -/

/-- "… or the uTP channel": the handler is an enqueue on the socket's bounded channel; while there is room it
    returns the empty reply (blocking on a full channel is recorded in DESIGN §5 as a candidate, watched by the
    `utp_queue_has_room` monitor; parsing happens in the uTP library, outside the model) -/
theorem utp_talk_returns_empty (queued cap : Nat) (h : queued < cap) : utpTalk queued cap = some .empty :=
  if_pos h

/-! ## TALKRESP to one of our own requests -/

/-- "a TALKRESP to one of our own requests … a returned error. It never panics": the four response processors end
    in a value or an error for every byte string (PONG payloads are decoded by a dependency: `handled` = value or error
    decided there) -/
theorem talkresp_never_panics (resp : List Nat) (version nkeys : Nat) :
    (processPong resp = .err ∨ processPong resp = .handled) ∧
    (processNodes resp = .err ∨ processNodes resp = .ok) ∧
    (processContent {} resp = .err ∨ processContent {} resp = .ok) ∧
    (processOffer version nkeys resp = .err ∨ processOffer version nkeys resp = .ok) := by
  refine ⟨?_, ?_, ?_, ?_⟩
  · fun_cases processPong resp <;> decide
  · fun_cases processNodes resp <;> decide
  · fun_cases processContent {} resp <;> decide
  · fun_cases processOffer version nkeys resp <;> decide

/-- the empty response is an error for every processor; for CONTENT so are a single byte and a wrong message code -/
theorem talkresp_short_is_error :
    processPong [] = .err ∧ processNodes [] = .err ∧ processContent {} [] = .err ∧ processOffer 1 2 [] = .err ∧
    (∀ c, processContent {} [c] = .err) ∧ (∀ c, c ≠ 5 → ∀ b, processContent {} (c :: b) = .err) := by
  refine ⟨rfl, rfl, rfl, rfl, fun c => ?_, fun c hc b => ?_⟩
  · exact ite_self (c := c ≠ 5) Out.err   -- the guarded branch `guard1 false _ .err` is `.err` too
  · cases b <;> exact if_pos hc

/-! ## uTP stream body -/

/-- "a uTP stream body": accepted exactly when it splits into as many items as keys were accepted, an error
    otherwise (the splitting itself is C15's `Fr.decContents`) -/
theorem stream_body_ok_or_error (nkeys : Nat) (payload : List Nat) :
    (offeredContents nkeys payload = .err ∨ offeredContents nkeys payload = .ok) ∧
    (offeredContents nkeys payload = .ok ↔ ∃ items, Fr.decContents payload = some items ∧ items.length = nkeys) := by
  fun_cases offeredContents nkeys payload
  case case1 h => simp [h]                                       -- the stream does not split
  case case2 items h hne => simp [h, hne]                        -- it splits into another number of items
  case case3 items h heq => simp [h, Decidable.not_not.mp heq]   -- it splits into `nkeys` items

/-! ## content item together with its content key: storage adapters -/

/-- "an offered or looked-up content item together with its content key": `ContentStorage.Get` of the three
    adapters for EVERY key (empty, one byte, unknown type, short, long) -/
theorem adapter_get_never_panics (net : Net) (e : Env) (hw : SumWf e) (key : List Nat) :
    (getOut {} net e key).isPanic = false := Dp.getOut_no_panic net e hw key

/-- `ContentStorage.Put` of the history and beacon adapters for every key and content -/
theorem adapter_put_never_panics (e : Env) (hw : SumWf e) (key content : List Nat) :
    (historyPut {} key).isPanic = false ∧ (beaconPut {} e key content).isPanic = false := by
  refine ⟨by cases key <;> rfl, ?_⟩
  fun_cases beaconPut {} e key content
  case case7 body => exact (sumPut_ideal e hw body content).1   -- key 0x14: the summaries branch
  all_goals rfl

/-- `Put` of the state adapter. PARTIAL: key and content are described by what the generator knows of them (proof
    length, hash match); their ztyp decoders are dependencies (`raw` ⇒ `handled` or `err`). Missing for full
    strength: a byte-level model of the ztyp container decoders. -/
theorem state_put_never_panics_partial (key : List Nat) (shape : StateShape) :
    (statePut {} key shape).isPanic = false := by
  fun_cases statePut {} key shape <;> rfl

/-! ## content item together with its content key: validators -/

/-- `TraverseTrieNode` on any node the decoder can produce (17-slot full nodes, terminated keys hold values) along
    any nibble path: an error or a reference, never a panic -/
theorem traverse_never_panics (n : Tr.Node) (path : List Nat) (hw : WfNode n) (hp : ∀ x ∈ path, x < 17) :
    ∀ k, traverseQ false false n path ≠ .panic k := by
  fun_induction traverseQ false false n path
  case case2 cs p ps hnone =>   -- child index out of range (a panic as found, an error since b3990c9): 17 slots, nibbles below 17
    rw [WfNode] at hw
    have : p < cs.length := hw.1 ▸ hp p (List.mem_cons_self ..)
    rw [List.getElem?_eq_getElem this] at hnone
    cases hnone
  case case3 cs p ps c hsome ih =>   -- a full node: on into the child
    rw [WfNode] at hw
    exact ih (hw.2 c (List.mem_of_getElem? hsome)) fun x hx => hp x (List.mem_cons_of_mem _ hx)
  case case9 key val path hd heq hnv hg =>   -- a terminated key over a non-value (likewise): it holds a value
    rw [WfNode] at hw
    obtain ⟨v, rfl⟩ := hw.1 hg
    exact absurd rfl (hnv v)
  case case10 key val path last hg hl r rest hm ih =>   -- an extension whose key matches: on into its child, `path = key ++ rest`
    rw [WfNode] at hw
    refine ih hw.2 fun x hx => hp x ?_
    rw [(Tr.matchKey_ok key path r rest hm).1]
    exact List.mem_append_right _ hx
  case case4 | case12 => contradiction   -- the unguarded leaves; both switches are off: `false = true`
  all_goals exact fun _ => TOut.noConfusion

-- a well-formed node and path (hypotheses of `traverse_never_panics`), here an extension over a short path
example : WfNode (.short [1, 2] (.hash [9])) ∧ ∀ x ∈ [1], x < 17 := by
  simp [WfNode]

/-- `ValidateContent` of the three validators, over any answer of the header source. PARTIAL: inputs are shapes
    (era, consistency of the execution-block branch, peer-chosen slot; body / header withdrawals; a decoded first
    proof node with a peer-chosen path); rlp / SSZ decoding and Merkle / Keccak checks are dependencies. Missing for
    full strength: byte-level models of those decoders (C02 / C03 / C13 model the checks themselves). -/
theorem validators_never_panic_partial (key : List Nat) (hs : HistShape) (ss : StShape)
    (hw : ∀ n path l h, ss = .acct2 (some n) path l h → WfNode n ∧ ∀ x ∈ path, x < 17) :
    (historyValidate {} key hs).isPanic = false ∧ (stateValidate {} key ss).isPanic = false ∧
    (beaconValidate {} key).isPanic = false := by
  refine ⟨?_, ?_, ?_⟩
  · fun_cases historyValidate {} key hs <;> rfl
  · fun_cases stateValidate {} key ss
    case case4 path link nh n k hk =>   -- the traversal's panic handed on: it does not panic
      obtain ⟨hwf, hp⟩ := hw n path link nh rfl
      exact absurd hk (traverse_never_panics n path hwf hp k)
    all_goals rfl
  · fun_cases beaconValidate {} key <;> rfl

/-- with both trie switches on the model is the traversal model of C13 (`Tr.traverse`, whose `ok` results are
    characterised by `Tr.traverse_iff` in `Trie/Tagged.lean`) -/
theorem traverse_asIs_is_Tr (n : Tr.Node) (path : List Nat) : (traverseQ true true n path).erase = Tr.traverse n path := by
  -- as `Tr.traverseT_erase`: each branch of `traverseQ`, under its conditions, is the same branch of `Tr.traverse`
  fun_induction traverseQ true true n path
  case case5 | case13 => contradiction   -- the guarded leaves; both switches are on: `¬true = true`
  all_goals simp only [Tr.traverse_short, Tr.traverse, ↓reduceIte, ne_eq, not_false_eq_true, *]
  all_goals rfl

/-! ## "… and the handling call returns"

Every model function is total (structural or well-founded recursion: `Fr.decContents` on the stream length,
`traverseQ` on the path length, `updatesWalk` on `end − start`). -/

/-- the one loop whose bound is chosen by the peer — the update-range loop of the beacon adapter's `Get`, `Count` up to
    2^64 — makes at most one look-up per stored period plus the one that misses -/
theorem returns_updates_loop (periods : List (Nat × Nat)) (endp p : Nat) :
    updatesSteps periods endp p ≤ periods.length + 1 :=
  Nat.le_trans (updatesSteps_le_filter periods endp p) (Nat.succ_le_succ (List.length_filter_le ..))

-- the loop bound is attained: two stored periods, a count of 2^64 − 1: three look-ups
example : updatesSteps [(5, 10), (6, 10)] (2 ^ 64 - 1) 5 = 3 := by
  unfold updatesSteps updatesSteps updatesSteps; decide

/-- each item of a stream body consumes at least one byte (so `decodeContents` makes at most `len` iterations) -/
theorem returns_stream_items (data x rest : List Nat) (h : Fr.decSingle data = some (x, rest)) :
    rest.length < data.length := Fr.decSingle_shrinks data x rest h

/-! ## Findings: the tree as found — NEGATIVE results, one per unguarded site, each with only the switch of that site on -/

/-- an empty TALKREQ panics in `handleTalkRequest` (no `recover` around talk handlers: the process dies) -/
theorem finding_empty_talkreq (net : Net) (e : Env) (ver : Option Nat) :
    handleTalk { talkEmpty := true } net e ver [] = .panic "portalwire.PortalProtocol.handleTalkRequest:idx" :=
  rfl

/-- a one-byte CONTENT response panics in `processContent` -/
theorem finding_content_selector :
    processContent { contentSel := true } [5] = .panic "portalwire.PortalProtocol.processContent:idx" :=
  rfl

/-- FINDCONTENT / OFFER with an empty content key panic in the history and beacon adapters; `Put` / `ValidateContent`
    with an empty key panic in all three networks -/
theorem finding_empty_content_key :
    (handleTalk { histKey := true } .history {} (some 1) [4, 4, 0, 0, 0] = .panic "history.isEphemeralOfferType:idx" ∧
     handleTalk { histKey := true } .history {} (some 0) [6, 4, 0, 0, 0, 4, 0, 0, 0] = .panic "history.isEphemeralOfferType:idx") ∧
    (handleTalk { beaconGetKey := true } .beacon {} (some 1) [4, 4, 0, 0, 0] = .panic "beacon.Storage.Get:idx" ∧
     beaconPut { beaconPutKey := true } {} [] [] = .panic "beacon.Storage.Put:idx") ∧
    (statePut { stateKey := true } [] .raw = .panic "state.Storage.Put:idx" ∧
     historyValidate { histVal := true } [] .raw = .panic "history.HistoryValidator.ValidateContent:idx" ∧
     stateValidate { stateVal := true } [] .raw = .panic "state.StateValidator.ValidateContent:idx" ∧
     beaconValidate { beaconVal := true } [] = .panic "beacon.BeaconValidator.ValidateContent:idx") :=
  ⟨⟨rfl, rfl⟩, ⟨rfl, rfl⟩, rfl, rfl, rfl, rfl⟩

/-- once summaries are stored, FINDCONTENT for the key `0x14` panics in `reverseCompare`; a long key panics in `Put`;
    a short key is stored as a short value on which later calls slice out of range -/
theorem finding_beacon_summaries :
    handleTalk { beaconSumGet := true } .beacon envSum (some 1) [4, 4, 0, 0, 0, 0x14] = .panic "beacon.reverseCompare:idx" ∧
    beaconPut { beaconSumPut := true } envSum [0x14, 1, 2, 3, 4, 5, 6, 7, 8, 9] [] = .panic "beacon.reverseCompare:idx" ∧
    (sumPut { beaconSumPut := true } {} [1] []).2 = some ([1], 1) ∧
    beaconGet { beaconSumGet := true } { sum := some ([1], 1) } [0x14, 0, 0, 0, 0, 0, 0, 0, 0] = .panic "beacon.Storage.Get:slice" ∧
    beaconPut { beaconSumPut := true } { sum := some ([1], 1) } [0x14, 0, 0, 0, 0, 0, 0, 0, 0] [] = .panic "beacon.Storage.Put:slice" :=
  ⟨rfl, rfl, rfl, rfl, rfl⟩

/-- an empty proof list panics in the state adapter's `Put` -/
theorem finding_state_empty_proof :
    statePut { stateProof := true } [0x20] (.acc 0 false) = .panic "state.Storage.putAccountTrieNode:idxneg" ∧
    statePut { stateProof := true } [0x21] (.con 0 false) = .panic "state.Storage.putContractStorageTrieNode:idxneg" :=
  ⟨rfl, rfl⟩

/-- a peer-chosen slot beyond the historical-roots table, a Shanghai-format body under a pre-Shanghai header, and
    the two unchecked accesses of the trie traversal -/
theorem finding_validators :
    historyValidate { rootsIndex := true } [0] (.roots true (758 * 8192) 758) =
      .panic "validation.HeaderValidator.validateMergeToCapellaHeader:idx" ∧
    historyValidate { withdrawalsNil := true } [1] (.body false true false) = .panic "history.validateBlockBody:nil" ∧
    traverseQ true false (.short [] .empty) [1] = .panic "idxneg" ∧
    traverseQ false true (.short [1, 2] (.hash [9])) [1] = .panic "idx" ∧
    stateValidate { triePath := true } [0x20] (.acct2 (some (.short [1, 2] (.hash [9]))) [1] true true) =
      .panic "trie.TraverseTrieNode:idx" :=
  have h : traverseQ false true (.short [1, 2] (.hash [9])) [1] = .panic "idx" := by unfold traverseQ; rfl
  ⟨rfl, rfl, by unfold traverseQ; rfl, h, by simp only [stateValidate, h, String.reduceAppend]⟩

-- the ideal model on the very inputs of the findings: empty reply, "not found" reply, error
example : handleTalk {} .history {} (some 1) [] = .empty ∧
    handleTalk {} .history {} (some 1) [4, 4, 0, 0, 0] = .reply 5 (some 2) ∧
    handleTalk {} .beacon envSum (some 1) [4, 4, 0, 0, 0, 0x14] = .reply 5 (some 2) ∧
    handleTalk {} .beacon envSum (some 1) [4, 4, 0, 0, 0, 0x14, 4, 0, 0, 0, 0, 0, 0, 0] = .reply 5 (some 1) ∧
    handleTalk {} .beacon envSum (some 1) [4, 4, 0, 0, 0, 0x14, 6, 0, 0, 0, 0, 0, 0, 0] = .reply 5 (some 2) ∧
    processContent {} [5] = .err := ideal_on_witnesses

#print axioms talk_reply_or_empty
#print axioms talk_never_panics
#print axioms talk_unknown_code_empty
#print axioms talk_dispatch_is_Fc
#print axioms summaries_invariant
#print axioms utp_talk_returns_empty
#print axioms talkresp_never_panics
#print axioms talkresp_short_is_error
#print axioms stream_body_ok_or_error
#print axioms adapter_get_never_panics
#print axioms adapter_put_never_panics
#print axioms state_put_never_panics_partial
#print axioms traverse_never_panics
#print axioms validators_never_panic_partial
#print axioms traverse_asIs_is_Tr
#print axioms returns_updates_loop
#print axioms returns_stream_items
#print axioms finding_empty_talkreq
#print axioms finding_content_selector
#print axioms finding_empty_content_key
#print axioms finding_beacon_summaries
#print axioms finding_state_empty_proof
#print axioms finding_validators
end Props.C01
