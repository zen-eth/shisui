import Shisui.HeaderProof
/-! # C03 — Header proofs: honest proofs verify and nothing else does, in all four eras

Statement: "For any set of trusted accumulators (pre-merge epoch roots, historical roots, historical summaries) and
any header, the proof check succeeds exactly when the header's hash is the leaf committed at the position fixed by
its block number (pre-merge) or by the proof's slot (post-merge). An honestly generated proof always verifies; a
proof for another header, position, slot or era, or with any altered sibling, never does, and out-of-range
positions yield an error."

Model: `Hp.validate` (`ValidateHeaderAndProof`: era dispatch, the four era validators with the code's index
expressions, table look-ups with Go's bounds behaviour, the summaries provider with its wrapping subtraction and
oracle) over `Mk.fold` (the loop of fastssz `VerifyProof` and zrnt `VerifyMerkleBranch`). The hash `H` is a
PARAMETER: every theorem holds for every two-to-one function, so "never" is stated in binding form — an accepted
forgery yields an explicit collision (`Mk.Collision H`: two distinct input pairs with equal output) or an explicit
leaf pre-image (`Mk.LeafPre H T`: a leaf chunk of the committed tree that is itself `H a b`); no injectivity axiom.
Trees `T`, `B` range over ALL openings of the trusted roots (any shape, any size). `Hp.ideal` is the model with both
table accesses bounds-checked; `Hp.asIs` is the code as it was found, both accesses unchecked (theorems
`*_unchecked_breaks_C03`; repaired in /repo since, DESIGN.md 0.3). The driver compares the real validator with this
model on every run (`Driver/C03.lean`). -/
namespace Props.C03
open Hp Mk

variable (H : Hash → Hash → Hash)

/-! ## "An honestly generated proof always verifies" -/

/-- pre-merge: for every epoch content `recs` (any chain length ≤ 8192, zero padded), every table that holds the
    epoch's root at `n / 8192`, every record `n mod 8192` of the chain: the proof of the model prover
    (`history.BuildProof`: 14 siblings + the length chunk) has 15 siblings and is accepted -/
theorem honest_verifies_premerge (q : Quirks) (t : Tables) (recs : List (Hash × Hash)) (n : Nat) (hash td : Hash)
    (htab : t.epochs[n / epochSize]? = some (epochRoot H recs))
    (hrec : recs[n % epochSize]? = some (hash, td)) :
    ∃ sib, proveEpoch H recs n = some sib ∧ sib.length = 15 ∧ validatePre H q t n hash (some sib) = .ok :=
  complete_premerge H q t recs n hash td htab hrec

/-- … and through the top-level entry for every pre-merge block number and every byte string that splits into
    those 15 chunks -/
theorem honest_verifies_premerge_top (q : Quirks) (t : Tables) (recs : List (Hash × Hash)) (n : Nat) (hash td : Hash)
    (hn : n < mergeBlock)
    (htab : t.epochs[n / epochSize]? = some (epochRoot H recs))
    (hrec : recs[n % epochSize]? = some (hash, td)) :
    ∃ sib, proveEpoch H recs n = some sib ∧
      ∀ bytes, chunksOf bytes = some sib → validate H q t n hash bytes = .ok := by
  obtain ⟨sib, h1, _, h3⟩ := complete_premerge H q t recs n hash td htab hrec
  exact ⟨sib, h1, fun bytes hb => by rw [validate_premerge H q t n hash bytes hn, hb]; exact h3⟩

/-- merge … Capella: whenever the trusted historical root of batch `slot / 8192` opens to a tree `T` whose node at
    the slot's position is (hashes as) a beacon block tree `B` holding the header hash at gindex 3228, the model
    prover's 14 + 11 siblings are accepted -/
theorem honest_verifies_bellatrix (q : Quirks) (t : Tables) (T B tb te : Tree) (slot : Nat) (hash : Hash)
    (htab : t.roots[slot / epochSize]? = some (root H T))
    (hT : nodeAt T 14 (bellIndex slot) = some tb) (hTB : root H tb = root H B)
    (hB : nodeAt B 11 gindexBellatrix = some te) (hte : root H te = hash) :
    ∃ bp ep, prove H T 14 (bellIndex slot) = some (bp, root H B) ∧ prove H B 11 gindexBellatrix = some (ep, hash) ∧
      bp.length = 14 ∧ ep.length = 11 ∧ validateBell H q t hash (mkPM bp (root H B) ep slot) = .ok := by
  simp only [validateBell_eq]
  exact checkPost_complete H htab hT hTB hB hte

/-- Capella (gindex 3228, 11 siblings) against the summary the provider returns for the slot -/
theorem honest_verifies_capella (t : Tables) (T B tb te : Tree) (slot : Nat) (hash : Hash)
    (htab : lookupSummary t slot = some (root H T))
    (hT : nodeAt T 13 (summIndex slot) = some tb) (hTB : root H tb = root H B)
    (hB : nodeAt B 11 gindexBellatrix = some te) (hte : root H te = hash) :
    ∃ bp ep, prove H T 13 (summIndex slot) = some (bp, root H B) ∧ prove H B 11 gindexBellatrix = some (ep, hash) ∧
      bp.length = 13 ∧ ep.length = 11 ∧ validateSumm H gindexBellatrix t hash (mkPM bp (root H B) ep slot) = .ok := by
  simp only [validateSumm_eq]
  exact checkPost_complete H htab hT hTB hB hte

/-- "An honestly generated proof always verifies", Deneb and later: the same with gindex 6444 and 12 execution
    siblings -/
theorem honest_verifies_deneb (t : Tables) (T B tb te : Tree) (slot : Nat) (hash : Hash)
    (htab : lookupSummary t slot = some (root H T))
    (hT : nodeAt T 13 (summIndex slot) = some tb) (hTB : root H tb = root H B)
    (hB : nodeAt B 12 gindexDeneb = some te) (hte : root H te = hash) :
    ∃ bp ep, prove H T 13 (summIndex slot) = some (bp, root H B) ∧ prove H B 12 gindexDeneb = some (ep, hash) ∧
      bp.length = 13 ∧ ep.length = 12 ∧ validateSumm H gindexDeneb t hash (mkPM bp (root H B) ep slot) = .ok := by
  simp only [validateSumm_eq]
  exact checkPost_complete H htab hT hTB hB hte

/-! ## "the proof check succeeds [only] when the header's hash is the leaf committed at the position fixed by its
       block number (pre-merge) or by the proof's slot (post-merge)" -/

/-- pre-merge, any opening `T` of the trusted epoch root: accepted ⇒ the node at depth 15 along index
    `4·8192 + 2·(n mod 8192)` hashes to the header hash ∨ explicit collision ∨ explicit leaf pre-image -/
theorem accepted_is_committed_premerge (q : Quirks) (t : Tables) (n : Nat) (hash : Hash) (sib : Option (List Hash))
    (hok : validatePre H q t n hash sib = .ok) (T : Tree)
    (hT : t.epochs[n / epochSize]? = some (root H T)) :
    (∃ tn, nodeAt T 15 (preIndex n) = some tn ∧ root H tn = hash) ∨ Collision H ∨ LeafPre H T := by
  obtain ⟨s, -, hl, he⟩ := (validatePre_ok_iff H).1 hok
  rw [hT] at he
  exact hl ▸ sound H (Option.some.inj he).symm

/-- pre-merge, in terms of the accumulator's content: accepted ⇒ the header hash is the block hash of record
    `n mod 8192` of the epoch (the zero hash beyond the end of the chain) — a header at ANOTHER POSITION or ANOTHER
    HEADER at this position is accepted only with an exhibited collision / pre-image -/
theorem accepted_is_recorded_premerge (q : Quirks) (t : Tables) (n : Nat) (hash : Hash) (sib : Option (List Hash))
    (recs : List (Hash × Hash))
    (hok : validatePre H q t n hash sib = .ok)
    (hT : t.epochs[n / epochSize]? = some (epochRoot H recs)) :
    (recAt recs (n % epochSize)).1 = hash ∨ Collision H ∨ LeafPre H (epochTree recs) :=
  (accepted_is_committed_premerge H q t n hash sib hok (epochTree recs) hT).imp_left fun ⟨tn, h1, h2⟩ => by
    rw [epochTree_nodeAt] at h1
    cases h1
    exact h2

/-- merge … Capella: accepted ⇒ the proof's beacon block root is committed at the SLOT's position of the SLOT's
    batch, and the header hash is committed at gindex 3228 of that beacon block (14 and 11 siblings are what the
    fixed-size container decodes to, `Hp.decodePM_lengths`) -/
theorem accepted_is_committed_bellatrix (q : Quirks) (t : Tables) (hash : Hash) (p : PM)
    (hok : validateBell H q t hash p = .ok) (hbl : p.bproof.length = 14) (T B : Tree)
    (hT : t.roots[p.slot / epochSize]? = some (root H T)) (hB : root H B = p.broot) :
    ((∃ tb, nodeAt T 14 (bellIndex p.slot) = some tb ∧ root H tb = p.broot) ∨ Collision H ∨ LeafPre H T) ∧
    ((∃ te, nodeAt B p.eproof.length gindexBellatrix = some te ∧ root H te = hash) ∨ Collision H ∨ LeafPre H B) := by
  rw [validateBell_eq] at hok
  exact checkPost_sound H hok (Nat.le_of_eq hbl.symm) T B hT hB

/-- Capella and Deneb (`g` = 3228 / 6444): the same against the summary of batch `(slot − capella_start) / 8192` -/
theorem accepted_is_committed_summaries (g : Nat) (t : Tables) (hash : Hash) (p : PM)
    (hok : validateSumm H g t hash p = .ok) (hbl : p.bproof.length = 13) (T B : Tree)
    (hT : lookupSummary t p.slot = some (root H T)) (hB : root H B = p.broot) :
    ((∃ tb, nodeAt T 13 (summIndex p.slot) = some tb ∧ root H tb = p.broot) ∨ Collision H ∨ LeafPre H T) ∧
    ((∃ te, nodeAt B p.eproof.length g = some te ∧ root H te = hash) ∨ Collision H ∨ LeafPre H B) := by
  rw [validateSumm_eq] at hok
  exact checkPost_sound H hok (Nat.le_of_eq hbl.symm) T B hT hB

/-! ## "a proof for another header … or with any altered sibling, never does" -/

/-- pre-merge: at one block number at most ONE pair (header hash, 15 siblings) is accepted; a second accepted pair
    that differs in the hash or in any sibling yields an explicit collision -/
theorem altered_sibling_or_header_premerge (q q' : Quirks) (t : Tables) (n : Nat) (hash hash' : Hash) (s s' : List Hash)
    (h1 : validatePre H q t n hash (some s) = .ok) (h2 : validatePre H q' t n hash' (some s') = .ok) :
    (hash = hash' ∧ s = s') ∨ Collision H := by
  obtain ⟨_, hx, hl, he⟩ := (validatePre_ok_iff H).1 h1
  obtain ⟨_, hx', hl', he'⟩ := (validatePre_ok_iff H).1 h2
  cases hx
  cases hx'
  exact fold_inj H (hl.trans hl'.symm) (Option.some.inj (he.symm.trans he'))

/-- merge … Capella: at one slot at most ONE (header hash, beacon block root, 14 beacon siblings, execution siblings)
    with a given number of execution siblings is accepted; a second accepted one that differs anywhere yields an
    explicit collision -/
theorem altered_sibling_or_header_bellatrix (q q' : Quirks) (t : Tables) (hash hash' : Hash) (p p' : PM)
    (hs : p.slot = p'.slot) (hb : p.bproof.length = 14) (hb' : p'.bproof.length = 14)
    (he : p.eproof.length = p'.eproof.length)
    (h1 : validateBell H q t hash p = .ok) (h2 : validateBell H q' t hash' p' = .ok) :
    (hash = hash' ∧ p.broot = p'.broot ∧ p.bproof = p'.bproof ∧ p.eproof = p'.eproof) ∨ Collision H := by
  rw [validateBell_eq] at h1 h2
  rw [← hs] at h2
  exact checkPost_unique H hb hb' he h1 h2

/-- "a proof for another header … or with any altered sibling, never does", Capella and later (`g` = 3228 / 6444):
    the same with 13 beacon siblings -/
theorem altered_sibling_or_header_summaries (g : Nat) (t : Tables) (hash hash' : Hash) (p p' : PM)
    (hs : p.slot = p'.slot) (hb : p.bproof.length = 13) (hb' : p'.bproof.length = 13)
    (he : p.eproof.length = p'.eproof.length)
    (h1 : validateSumm H g t hash p = .ok) (h2 : validateSumm H g t hash' p' = .ok) :
    (hash = hash' ∧ p.broot = p'.broot ∧ p.bproof = p'.bproof ∧ p.eproof = p'.eproof) ∨ Collision H := by
  rw [validateSumm_eq] at h1 h2
  rw [← hs] at h2
  exact checkPost_unique H hb hb' he h1 h2

/-! ## "a proof for another … era … never does" -/

/-- era dispatch: the block number alone selects the era (merge / shanghai / cancun constants) -/
theorem era_of_number (n : Nat) :
    (n < mergeBlock → eraOf n = .preMerge) ∧
    (mergeBlock ≤ n → n < shanghaiBlock → eraOf n = .bellatrix) ∧
    (shanghaiBlock ≤ n → n < cancunBlock → eraOf n = .capella) ∧
    (cancunBlock ≤ n → eraOf n = .deneb) :=
  ⟨eraOf_pre n, eraOf_bell n, eraOf_cap n, eraOf_deneb n⟩

/-- an accepted proof has exactly the byte size of the era of the header's number (480 / 840 / 808 / 840): a proof
    laid out for an era of another size is rejected whatever it contains -/
theorem wrong_era_size_rejected (q : Quirks) (t : Tables) (n : Nat) (hash : Hash) (proof : List Nat)
    (hok : validate H q t n hash proof = .ok) : proof.length = eraSize (eraOf n) := by
  have container {nb ne : Nat} {f : PM → Out}
      (h : (match decodePM nb ne proof with | none => Out.errOther | some p => f p) = .ok) :
      proof.length = 32 * (nb + 1 + ne) + 8 := by
    cases decoded : decodePM nb ne proof with
    | none => rw [decoded] at h; cases h
    | some p => exact (decodePM_lengths nb ne proof p decoded).2.2
  unfold validate at hok
  cases he : eraOf n with
  | preMerge =>
    simp only [he] at hok
    obtain ⟨s, hs, hl, -⟩ := (validatePre_ok_iff H).1 hok
    rw [chunksOf_length proof s hs, hl]
    rfl
  | bellatrix =>
    simp only [he] at hok
    exact container hok
  | capella =>
    simp only [he] at hok
    exact container hok
  | deneb =>
    simp only [he] at hok
    exact container hok

/-- … and the verdict depends on no accumulator but the one of the number's era (Bellatrix and Deneb containers
    have the same size; they are kept apart by the Merkle checks against different accumulators, to which the
    `accepted_is_committed_*` theorems apply) -/
theorem wrong_era_other_tables_irrelevant (q : Quirks) (t t' : Tables) (n : Nat) (hash : Hash) (proof : List Nat)
    (h : match eraOf n with
         | .preMerge => t.epochs = t'.epochs
         | .bellatrix => t.roots = t'.roots
         | _ => t.summaries = t'.summaries ∧ t.oracle = t'.oracle) :
    validate H q t n hash proof = validate H q t' n hash proof := by
  unfold validate
  cases he : eraOf n with
  | preMerge =>
    simp only [he] at h ⊢
    unfold validatePre
    rw [h]
  | bellatrix =>
    simp only [he] at h ⊢
    unfold validateBell
    rw [h]
  | capella =>
    simp only [he] at h ⊢
    unfold validateSumm lookupSummary
    rw [h.1, h.2]
  | deneb =>
    simp only [he] at h ⊢
    unfold validateSumm lookupSummary
    rw [h.1, h.2]

/-! ## "out-of-range positions yield an error" -/

/-- ideal model, pre-merge: an epoch index beyond the accumulator is an error -/
theorem out_of_range_error_premerge (t : Tables) (n : Nat) (hash : Hash) (sib : Option (List Hash))
    (h : t.epochs.length ≤ n / epochSize) : validatePre H ideal t n hash sib = .errOther := by
  rw [validatePre, List.getElem?_eq_none h]
  rfl

/-- ideal model, merge … Capella: a slot whose batch lies beyond `historical_roots` is an error -/
theorem out_of_range_error_bellatrix (t : Tables) (hash : Hash) (p : PM)
    (h : t.roots.length ≤ p.slot / epochSize) : (validateBell H ideal t hash p).isErr = true := by
  rw [validateBell_eq, List.getElem?_eq_none h, checkPost_none]
  split <;> rfl

/-- Capella / Deneb: a summary index beyond the cache that the oracle does not supply either is an error;
    the index is `(slot − capella_start) / 8192` from the first Capella slot on, and a slot BEFORE it wraps
    around to an index ≥ 2^50 -/
theorem out_of_range_error_summaries (g : Nat) (t : Tables) (hash : Hash) (p : PM)
    (hc : t.summaries.length ≤ summaryIndex p.slot)
    (ho : match t.oracle with | .answers l => l.length ≤ summaryIndex p.slot | _ => True) :
    (validateSumm H g t hash p).isErr = true ∧
    (∀ slot, capellaStart ≤ slot → slot < 2 ^ 64 → summaryIndex slot = (slot - capellaStart) / epochSize) ∧
    (∀ slot, slot < capellaStart → 2 ^ 50 ≤ summaryIndex slot) := by
  refine ⟨?_, summaryIndex_capella, summaryIndex_wrap⟩
  rw [validateSumm_eq, lookupSummary_none_of_short t p.slot hc ho, checkPost_none]
  split <;> rfl

/-- the ideal model never panics, on any tables, number, hash and proof bytes -/
theorem never_panics_ideal (t : Tables) (n : Nat) (hash : Hash) (proof : List Nat) :
    validate H ideal t n hash proof ≠ .panic := by
  unfold validate
  cases eraOf n with
  | preMerge => exact validatePre_ne_panic H
  | bellatrix =>
    cases decodePM 14 11 proof with
    | none => exact nofun
    | some p =>
      dsimp only
      rw [validateBell_eq]
      exact checkPost_ne_panic H
  | capella =>
    cases decodePM 13 11 proof with
    | none => exact nofun
    | some p =>
      dsimp only
      rw [validateSumm_eq]
      exact checkPost_ne_panic H
  | deneb =>
    cases decodePM 13 12 proof with
    | none => exact nofun
    | some p =>
      dsimp only
      rw [validateSumm_eq]
      exact checkPost_ne_panic H

/-- NEGATIVE result for the code as it was found (validation/header_validator.go indexed
    `HistoricalRoots[historicalRootIndex]` without a bounds check):
    for EVERY header hash, EVERY 11 execution siblings and EVERY slot beyond the table, claiming the folded value
    as beacon block root makes the validator panic — the sender needs no knowledge of any committed data -/
theorem roots_unchecked_breaks_C03 (t : Tables) (hash : Hash) (ep bp : List Hash) (slot : Nat)
    (h : t.roots.length ≤ slot / epochSize) :
    validateBell H asIs t hash (mkPM bp (fold H hash ep gindexBellatrix) ep slot) = .panic := by
  show checkPost H _ _ _ t.roots[slot / epochSize]? true hash _ = _
  rw [List.getElem?_eq_none h]
  exact if_pos rfl

/-- likewise `HistoricalEpochs[epochIndex]` (reachable only with an accumulator shorter than the embedded one) -/
theorem epochs_unchecked_breaks_C03 (t : Tables) (n : Nat) (hash : Hash) (sib : Option (List Hash))
    (h : t.epochs.length ≤ n / epochSize) : validatePre H asIs t n hash sib = .panic := by
  rw [validatePre, List.getElem?_eq_none h]
  rfl

/-! ## the index constants of the code -/

/-- 3228 and 6444 are the generalized indices of `block_hash` (BeaconBlock → body → execution payload), the record
    index formula is the generalized index of record `r`'s block hash under the mixed-in length, ⌊log2⌋ = 15 is the
    proof length fastssz demands, and the verifier reads indices modulo 2^depth: 1180 and 2348 are 3228 and 6444
    without their leading bit, the position of `block_hash` among the 2^11 (2^12) nodes at its depth, which is all
    that `fold` and `nodeAt` read of the index -/
theorem gindex_facts :
    (3228 = ((1 * 8 + 4) * 16 + 9) * 16 + 12 ∧ 3228 / 2 ^ 11 = 1 ∧ 3228 % 2 ^ 11 = 1180) ∧
    (6444 = ((1 * 8 + 4) * 16 + 9) * 32 + 12 ∧ 6444 / 2 ^ 12 = 1 ∧ 6444 % 2 ^ 12 = 2348) ∧
    (∀ r, r < 8192 → 8192 * 2 * 2 + r * 2 = ((1 * 2 + 0) * 8192 + r) * 2 + 0 ∧ (8192 * 2 * 2 + r * 2) / 2 ^ 15 = 1) ∧
    (∀ n, Nat.log2 (preIndex n) = 15) ∧
    (∀ v br idx, fold H v br idx = fold H v br (idx % 2 ^ br.length)) :=
  ⟨⟨rfl, rfl, rfl⟩, ⟨rfl, rfl, rfl⟩,
    -- 1·2^15 ≤ index < 2·2^15, as 2r < 8192·4
    fun _ h => ⟨(Nat.add_mul ..).symm, Nat.div_eq_of_lt_le (Nat.le_add_right ..)
      (Nat.add_lt_add_left (Nat.mul_lt_mul_of_lt_of_le h (by decide : 2 ≤ 4) (by decide)) (8192 * 2 * 2))⟩,
    preIndex_log2, fold_mod H⟩

/-! ## the hypotheses are satisfiable (toy hash `a + 2·b + 1`, small structures) -/

def toyH (a b : Nat) : Nat := a + 2 * b + 1

/-- a two-record chain in a one-entry table: the honest proof of record 1 exists, has 15 siblings and verifies -/
example : ∃ sib, proveEpoch toyH [(11, 1), (22, 3)] 1 = some sib ∧ sib.length = 15 ∧
    validatePre toyH ideal ⟨[epochRoot toyH [(11, 1), (22, 3)]], [], [], .absent⟩ 1 22 (some sib) = .ok :=
  honest_verifies_premerge toyH ideal _ [(11, 1), (22, 3)] 1 22 3 rfl rfl

/-- a batch tree and a block tree of exactly the depths the Bellatrix validator walks -/
example : ∃ bp ep, bp.length = 14 ∧ ep.length = 11 ∧
    validateBell toyH ideal ⟨[], [root toyH (build 14 (fun i => .leaf (if i = 5 then root toyH (build 11 (fun j => .leaf j)) else i)))], [], .absent⟩
      (3228 % 2 ^ 11) (mkPM bp (root toyH (build 11 (fun j => .leaf j))) ep 5) = .ok := by
  obtain ⟨bp, ep, -, -, len_bp, len_ep, ok⟩ := honest_verifies_bellatrix toyH ideal
    (T := build 14 (fun i => .leaf (if i = 5 then root toyH (build 11 (fun j => .leaf j)) else i)))
    (B := build 11 (fun j => .leaf j)) (t := ⟨[], [_], [], .absent⟩) (tb := _) (te := _) (slot := 5)
    (hash := 3228 % 2 ^ 11)
    rfl
    (nodeAt_build 14 _ _)
    (root.eq_1 ..)  -- not `rfl`: the kernel would evaluate the root of the 2^11-leaf tree to compare
    (nodeAt_build 11 _ _)
    rfl
  exact ⟨bp, ep, len_bp, len_ep, ok⟩

/-- the panic witness is concrete: empty `historical_roots`, slot 0 -/
example : validateBell toyH asIs ⟨[], [], [], .absent⟩ 7 (mkPM [] (fold toyH 7 [] gindexBellatrix) [] 0) = .panic :=
  roots_unchecked_breaks_C03 toyH _ 7 [] [] 0 (by decide)

/-- … while the ideal model answers with an error there -/
example : (validateBell toyH ideal ⟨[], [], [], .absent⟩ 7 (mkPM [] (fold toyH 7 [] gindexBellatrix) [] 0)).isErr = true :=
  out_of_range_error_bellatrix toyH _ 7 _ (by decide)

#print axioms honest_verifies_premerge
#print axioms honest_verifies_premerge_top
#print axioms honest_verifies_bellatrix
#print axioms honest_verifies_capella
#print axioms honest_verifies_deneb
#print axioms accepted_is_committed_premerge
#print axioms accepted_is_recorded_premerge
#print axioms accepted_is_committed_bellatrix
#print axioms accepted_is_committed_summaries
#print axioms altered_sibling_or_header_premerge
#print axioms altered_sibling_or_header_bellatrix
#print axioms altered_sibling_or_header_summaries
#print axioms era_of_number
#print axioms wrong_era_size_rejected
#print axioms wrong_era_other_tables_irrelevant
#print axioms out_of_range_error_premerge
#print axioms out_of_range_error_bellatrix
#print axioms out_of_range_error_summaries
#print axioms never_panics_ideal
#print axioms roots_unchecked_breaks_C03
#print axioms epochs_unchecked_breaks_C03
#print axioms gindex_facts
end Props.C03
