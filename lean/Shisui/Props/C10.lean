import Shisui.Lookup
/-! # C10 — Lookups terminate, ask each peer once, and return the closest nodes seen

Model: `Lk` (`portalwire/lookup.go`): state `asked, seen, result, inflight`; `Lk.init` (first "query" answers from the
local table), `Lk.reply` (one outstanding query completes with any answer, then `startQueries`), `Lk.drain` (cancellation).
A schedule is any list of (peer, answer) events; answers are arbitrary lists (duplicates, the asker, the local node,
cycles); a failing or silent peer answers `[]`. `Nd` models `nodesByDistance.push`. -/
namespace Props.C10
open Lk

/-- "never have more than 3 queries in flight, ask no peer twice and never ask the local node" — every schedule -/
theorem inflight_asked_self (d : Nat → Nat) (me : Nat) (localClosest : List Nat) (es : List Event) :
    let s := run d (init d me localClosest) es
    s.inflight.length ≤ 3 ∧ s.asked.Nodup ∧ s.inflight.Nodup ∧ (∀ n ∈ s.inflight, n ∈ s.asked) ∧ me ∉ s.inflight := by
  have h := run_inv d me es _ (init_inv d me localClosest)
  exact ⟨h.infl, h.askedND, h.chain_spec⟩

/-- "finish after at most one query per peer": over a finite universe `U`, any schedule performs at most
    `2·|unasked| + inflight ≤ 2·|U| + 3` replies — for all orders in which outstanding queries complete -/
theorem terminates (d : Nat → Nat) (U : List Nat) (hU : U.Nodup) (me : Nat) (localClosest : List Nat)
    (hl : ∀ n ∈ localClosest, n ∈ U) (es : List Event) (hes : ∀ e ∈ es, ∀ n ∈ e.2, n ∈ U) :
    steps d (init d me localClosest) es ≤ 2 * U.length + 3 := by
  have hres : ∀ n ∈ (init d me localClosest).result, n ∈ U := fun n hn => hl n (init_result_sub d me localClosest n hn)
  exact Nat.le_trans (steps_bounded d U hU es hes _ hres) (mu_le U _ (init_inv d me localClosest).infl)

/-- "The node lookup returns at most 16 distinct nodes sorted by XOR distance to the target with no closer seen node
    omitted": in every reachable state the result has at most 16 nodes, is sorted, holds seen nodes only, and none of them is
    farther than a seen node beyond the first 16 of the sorted list -/
theorem result_closest (d : Nat → Nat) (me : Nat) (localClosest : List Nat) (es : List Event) :
    let s := run d (init d me localClosest) es
    s.result.length ≤ 16 ∧ Nd.Sorted d s.result ∧ (∀ r ∈ s.result, r ∈ s.seen) ∧
    (∀ r ∈ s.result, ∀ m ∈ (Nd.allSorted d s.seen.reverse).drop 16, d r ≤ d m) := by
  have h := (run_inv d me es _ (init_inv d me localClosest)).res
  have := Nd.result_closest d kRes (run d (init d me localClosest) es).seen.reverse
  rw [← h] at this
  exact ⟨this.1, this.2.1, fun r hr => List.mem_reverse.mp (this.2.2.1 r hr), this.2.2.2⟩

/-- cancellation at any moment: draining asks nobody new, leaves the result as it is, and puts nobody in flight -/
theorem cancel_drains (s : LState) (ps : List Nat) :
    (drain s ps).asked = s.asked ∧ (drain s ps).result = s.result ∧ (drain s ps).inflight.length ≤ s.inflight.length := by
  induction ps generalizing s with
  | nil => exact ⟨rfl, rfl, Nat.le_refl _⟩
  | cons p ps ih =>
    have := ih { s with inflight := s.inflight.erase p }
    exact ⟨this.1, this.2.1, Nat.le_trans this.2.2 (List.length_erase_le ..)⟩

/-! ## content lookup: the first content supplied wins (`atomic.CompareAndSwap` on `hasResult`) -/

inductive CReply where
  | nodes (l : List Nat)
  | content (c : List Nat)
deriving DecidableEq

def cstep (res : Option (List Nat)) : CReply → Option (List Nat)
  | .content c => match res with | none => some c | some r => some r
  | .nodes _ => res

def cresult (rs : List CReply) : Option (List Nat) := rs.foldl cstep none

theorem cstep_some (rs : List CReply) (c : List Nat) : rs.foldl cstep (some c) = some c := by
  induction rs with
  | nil => rfl
  | cons r rs ih => cases r <;> exact ih

/-- the first reply that carries content decides, whatever comes after it -/
theorem cresult_eq_findSome (rs : List CReply) :
    cresult rs = rs.findSome? fun | .content c => some c | .nodes _ => none := by
  unfold cresult
  induction rs with
  | nil => rfl
  | cons r rs ih =>
    cases r with
    | nodes l => rw [List.foldl_cons, cstep, ih, List.findSome?_cons]
    | content c => rw [List.foldl_cons, cstep, cstep_some, List.findSome?_cons]

/-- "a content lookup returns the bytes some queried peer supplied if any did, and not-found otherwise" -/
theorem content_result (rs : List CReply) :
    (cresult rs = none ↔ ∀ r ∈ rs, ∃ l, r = .nodes l) ∧ (∀ c, cresult rs = some c → .content c ∈ rs) := by
  rw [cresult_eq_findSome]
  constructor
  · rw [List.findSome?_eq_none_iff]
    exact forall₂_congr fun r _ => by cases r <;> simp
  · intro c hc
    obtain ⟨r, hr, e⟩ := List.exists_of_findSome?_eq_some hc
    cases r with
    | nodes l => cases e
    | content c' => cases e; exact hr

example : (init (fun n => n) 0 [5, 3, 9, 7]).inflight = [7, 5, 3] := by decide
example : cresult [.nodes [1], .content [7], .content [8]] = some [7] := by decide

#print axioms inflight_asked_self
#print axioms terminates
#print axioms result_closest
#print axioms cancel_drains
#print axioms content_result
end Props.C10
