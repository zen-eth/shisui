import Shisui.FindNodes
import Shisui.FindContent
import Shisui.PacketSize
/-! # C11 — FINDNODES replies and their acceptance obey distance, size and relay rules

Model: `Fnn.collect` (`collectTableNodes` over `appendBucketNodes`), `Fnr.consume` over `Fnr.cleanDists` and `Fnr.cands`
(the same handler as a relation on real replies, for `allowed_reply_rule`), `Fc.truncate` (`truncateNodes`),
`Pk.talkRespSize` (discv5 TALKRESP datagram size from the RLP length arithmetic), `Fnn.filterNodes`
(`filterNodes`/`verifyResponseNode`). Record attributes (signature valid, relay-safe, UDP port, log-distance to the
responder) are observations computed by go-ethereum functions; the decision logic over them is what is modelled. -/
namespace Props.C11

/-- "offers the local record for distance 0 and otherwise only liveness-checked table entries from the buckets that cover
    the requested distances, at most 32 … omitting any record (the local one included) whose address could not safely be
    relayed to the asker" -/
theorem nodes_rule (bucket : Nat → List Fnn.TNode) (self : Fnn.TNode) (ds : List Nat) :
    (∀ n ∈ Fnn.collect bucket self 32 ds [] [], n.relayOk = true ∧ (n = self ∨ n.live = true)) ∧
    (Fnn.collect bucket self 32 ds [] []).length ≤ 32 := by
  have init : ∀ n ∈ ([] : List Fnn.TNode), n.relayOk = true ∧ (n = self ∨ n.live = true) := fun _ h => nomatch h
  have step : ∀ d ∈ ds, ∀ n ∈ (Fnn.cand bucket self d).filter (·.relayOk),
      n.relayOk = true ∧ (n = self ∨ n.live = true) := by
    intro d _ n hn
    obtain ⟨hcand, hrelay⟩ := List.mem_filter.mp hn
    exact ⟨hrelay, Fnn.mem_cand hcand⟩
  exact ⟨Fnn.collect_all init step, Fnn.length_collect_le (Nat.zero_le _)⟩

/-- the same clause for the relation the driver evaluates on REAL replies (buckets are shuffled, so the reply is a relation
    of the table): whatever reply satisfies it consists of the local record (distance 0 requested) or verified entries of
    the bucket covering a requested distance ≤ 256, all relay-safe for the asker -/
theorem allowed_reply_rule (tab : List Fnr.TN) (selfN : Fnr.TN) (asker : String) (dists : List Nat) (res : List Nat)
    (rest : List (List Fnr.TN))
    (h : Fnr.consume ((Fnr.cleanDists dists []).map (Fnr.cands tab selfN asker)) res = (true, rest)) :
    ∀ i ∈ res, ∃ d ∈ dists, d ≤ 256 ∧ ∃ n, n.id = i ∧ Fnr.relayOk asker n.cls = true ∧
      ((d = 0 ∧ n = selfN) ∨ (d ≠ 0 ∧ n ∈ tab ∧ n.live = true ∧ n.bucket = Fnr.bucketOf d)) := by
  intro i hi
  obtain ⟨s, hs, n, hn, hid⟩ := Fnr.consume_mem h i hi
  obtain ⟨d, hd, rfl⟩ := List.mem_map.mp hs
  exact ⟨d, (Fnr.mem_cleanDists hd).1, (Fnr.mem_cleanDists hd).2, n, hid, Fnr.mem_cands hn⟩

/-- "A FINDNODES reply fits in one discv5 packet": whatever list of records is handed to `truncateNodes` with the budget
    `maxPacketSize − talkRespOverhead − 6`, the NODES message (1 id byte + 1 total + 4 offset + Σ(4 + record)) yields a
    datagram of at most 1280 bytes for every request id of at most 8 bytes -/
theorem nodes_fits (nodes : List Fc.N) (reqId : Nat) (s1 s2 : Bool) (hr : reqId ≤ 8) :
    Pk.talkRespSize reqId (6 + Fc.size (Fc.truncate (1280 - 103 - 6) nodes 0)) s1 s2 ≤ 1280 :=
  Pk.fits reqId _ s1 s2 hr (show 6 + _ ≤ 1177 from Nat.add_le_add_left (Fc.size_truncate_le _ nodes) 6)

/-- the constant in the code is the real overhead bound: 16 + 55 + 1 + 3 + 9 + 3 + 16 = 103, tight at (8, 1177) -/
theorem overhead_exact : Pk.talkRespOverhead = 103 ∧ Pk.talkRespSize 8 1177 false false = 1280 := ⟨by decide, Pk.tight⟩

/-- "On the asking side a record from a NODES reply is used only if it is validly signed, lies at one of the requested
    distances from the responder, is not a repeat, has a UDP port above 1024 and passes the relay-address check." -/
theorem accept_only_if (requested : Option (List Nat)) (rs : List Fnn.Rec) :
    (∀ r ∈ Fnn.filterNodes requested [] rs,
        r ∈ rs ∧ r.signed = true ∧ r.relayOk = true ∧ r.inNetrestrict = true ∧ r.udp > 1024 ∧
        (∀ ds, requested = some ds → r.dist ∈ ds)) ∧
    ((Fnn.filterNodes requested [] rs).map (·.id)).Nodup := Fnn.accept_only_if requested rs

/-- "the buckets that cover the requested distances": the bucket map (the expression is `Fnr.bucketOf d`) is total on every
    distance the handler keeps (≤ 256) -/
theorem bucket_map_total (d : Nat) (h : d ≤ 256) : (if d ≤ 239 then 0 else d - 239 - 1) < 17 := by
  have hmodel : (if d ≤ 239 then 0 else d - 239 - 1) = Fnr.bucketOf d := by
    rw [Nat.sub_sub]
    rfl
  rw [hmodel, Fnr.bucketOf]
  split
  · decide
  · exact Nat.sub_lt_left_of_lt_add (Nat.not_le.mp ‹_›) (Nat.lt_succ_of_le h)

example : (Fnn.filterNodes (some [255]) [] [{ id := 1, signed := true, relayOk := true, inNetrestrict := true, udp := 30303, dist := 255 },
    { id := 1, signed := true, relayOk := true, inNetrestrict := true, udp := 30303, dist := 255 },
    { id := 2, signed := true, relayOk := true, inNetrestrict := true, udp := 1024, dist := 255 }]).length = 1 := by decide

#print axioms nodes_rule
#print axioms allowed_reply_rule
#print axioms nodes_fits
#print axioms overhead_exact
#print axioms accept_only_if
#print axioms bucket_map_total
end Props.C11
