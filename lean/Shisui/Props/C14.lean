import Shisui.Ssz.WireTy
import Shisui.Ssz.Schemas
/-! # C14 — Wire messages round-trip and decode canonically within their limits

The property theorems. The model is `Wire` (`Shisui/Ssz/Wire.lean`): a schema-driven SSZ codec — `Wire.Ty.encode`
is `MarshalSSZ` (`Serialize`), `Wire.Ty.decode q` is `UnmarshalSSZ` (`Deserialize`) — over the container layer
`Sz.encodeC`/`Sz.decodeC`; the schemas of the repository's types are in `Shisui/Ssz/Schemas.lean`. Bytes are `Nat`s,
`Sz.Bytes b` says every element is below 256. The clauses are corollaries of three theorems about every `Wire.Ty`
(`Shisui/Ssz/WireTy.lean`): `ty_decode_encode` (what the decoder does on an encoding, exactly), `ty_decode_sound`
(what it accepts at all: within the limits, and when it re-encodes to the input), `ty_encode_bound`.

`t.inLim v` = "v is an in-limit value of type t" (the declared limits: the ones the decoder enforces).
`q : Wire.Quirks` are the two decoder deviations of today's code, the known findings (`Wire.asImplemented`: both on;
`Wire.ideal`: both off). `Schemas.… guard` is a third, of the tree as found: `guard = true` is the `size < 4` guard the
two bare lists had, repaired in /repo by 308affd (`size != 0 && size < 4`); `guard = false` is today's code, and the
correspondence run compares with it. The general theorems hold
for EVERY schema with consistent limits and EITHER setting of the switches unless they say otherwise; the
schemas of the repository are consistent (finite table check at the end). -/
namespace Props.C14
open Wire Sz

/-- "decoding the encoding of any in-limit value yields that value": an in-limit value of a consistent schema
    encodes, and its encoding decodes to it — for the decoder as implemented and for the ideal one.
    Hypotheses: the encoding is shorter than 2^32 bytes (Go truncates offsets with `uint32(offset)`), and it
    passes the bare-list size guard (`t.guard = 0` for every type; in the tree as found, before 308affd, not for
    `PortalReceipts` and `EphemeralHeaderPayload`: `guard_zero_ideal`, `empty_bare_list_does_not_roundtrip`). -/
theorem roundtrip (q : Quirks) (t : Ty) (v : List SVal) (hc : t.consistent = true) (hl : t.inLim v = true) :
    ∃ b, t.encode v = some b ∧ (b.length < 2 ^ 32 → t.guard ≤ b.length → t.decode q b = some v) := by
  obtain ⟨b, hb⟩ := ty_encode_some hc hl
  exact ⟨b, hb, fun hsz hg => by rw [ty_decode_encode q hc hb hsz, if_pos hg, if_pos hl]⟩

/-- the same clause with the side conditions discharged from the schema: when the schema bounds the encoding below
    2^32 bytes (`t.bound`, true of every schema of the repository except the two block bodies and the receipts, whose
    items may be 16 / 128 MiB: `unbounded_types`) and the type has no size guard, EVERY in-limit value round-trips. -/
theorem roundtrip_bounded (q : Quirks) (t : Ty) (v : List SVal) (hc : t.consistent = true)
    (hbd : t.bound < 2 ^ 32) (hg : t.guard = 0) (hl : t.inLim v = true) :
    ∃ b, t.encode v = some b ∧ t.decode q b = some v := by
  obtain ⟨b, hb, hdec⟩ := roundtrip q t v hc hl
  exact ⟨b, hb, hdec (Nat.lt_of_le_of_lt (ty_encode_bound hl hb) hbd) (hg ▸ Nat.zero_le _)⟩

/-- "an over-limit value either fails to encode or encodes to bytes the decoder rejects" (any value that is not
    in-limit: too long, too many, wrong vector size, invalid bit list). -/
theorem overlimit (q : Quirks) (t : Ty) (v : List SVal) (hc : t.consistent = true) (hl : t.inLim v = false) :
    t.encode v = none ∨ ∃ b, t.encode v = some b ∧ (b.length < 2 ^ 32 → t.decode q b = none) := by
  cases he : t.encode v with
  | none => exact Or.inl rfl
  | some b =>
    refine Or.inr ⟨b, rfl, fun hsz => ?_⟩
    rw [ty_decode_encode q hc he hsz, hl]
    exact ite_self none

/-- "The declared limits … are enforced when decoding": whatever any decoder of the family accepts, from any
    byte string, is an in-limit value (and has the shape of the type). -/
theorem limits_enforced (q : Quirks) (t : Ty) (b : List Nat) (v : List SVal) (hb : Bytes b)
    (h : t.decode q b = some v) : t.inLim v = true ∧ t.shape v = true :=
  ⟨(ty_decode_sound hb h).1, all2_imp (fun _ _ _ => inLim_shape) (ty_decode_sound hb h).1⟩

/-- "any byte string that decodes successfully re-encodes to the same bytes" — for the ideal codec, every schema. -/
theorem canonical (t : Ty) (b : List Nat) (v : List SVal) (hc : t.consistent = true) (hb : Bytes b)
    (h : t.decode ideal b = some v) : t.encode v = some b :=
  (ty_decode_sound hb h).2 hc (.inl rfl) (.inl rfl)

/-- a type the two decoder deviations cannot touch: not decoded by fastssz's offset-table list decoder, and not a
    ztyp container of fixed fields only -/
def holeFree (t : Ty) : Bool := !t.fastDyn && !t.fixedZ

/-- the same clause AS IMPLEMENTED, at full strength, for every type that is neither decoded by fastssz's list
    decoder nor a fixed-size ztyp container: 38 of the 49 schemas (Ping, Pong, FindNodes, FindContent, Content,
    ConnectionId, Accept, AcceptV1, the variable-size ping payloads, the proofs and keys, all state types but one —
    `hole_free_types`; the other eleven are `not_hole_free_types`). -/
theorem canonical_as_implemented (q : Quirks) (t : Ty) (b : List Nat) (v : List SVal) (hc : t.consistent = true)
    (hf : holeFree t = true) (hb : Bytes b) (h : t.decode q b = some v) : t.encode v = some b := by
  simp only [holeFree, Bool.and_eq_true, Bool.not_eq_true'] at hf
  exact (ty_decode_sound hb h).2 hc (.inr hf.1) (.inr hf.2)

/-- the deviations never remove an acceptance nor change a decoded value -/
theorem implemented_extends_ideal (q : Quirks) (t : Ty) (b : List Nat) (v : List SVal) (hc : t.consistent = true)
    (hb : Bytes b) (h : t.decode ideal b = some v) : t.decode q b = some v := by
  cases t with
  | cont s => exact decodeSlots_mono q.zeroTail h
  | bare k g =>
    obtain ⟨hg, h⟩ := Option.ite_none_left_eq_some.1 h
    obtain ⟨x, hd, rfl⟩ := Option.map_eq_some_iff.1 h
    rw [Ty.decode, if_neg hg, decSlot_mono q.zeroTail hd]
    rfl
  | zcont s =>
    -- what the ideal decoder accepts re-encodes to the input, so a container of fixed fields has exactly its size
    have hen := canonical _ b v hc hb h
    rw [decode_zcont fun _ hf => encodeSlots_fixed_length hf hen]
    exact h
  | zbare k => exact h

/-- the same clause as implemented for the remaining types (the eleven of `not_hole_free_types`): PARTIAL. Proved:
    the deviations only add acceptances (`implemented_extends_ideal`), and every byte string the ideal decoder also
    accepts re-encodes to itself. Missing (and false today, see the two canonicity witnesses below): the byte strings
    only the implemented decoder accepts. -/
theorem canonical_partial (q : Quirks) (t : Ty) (b : List Nat) (v : List SVal) (hc : t.consistent = true)
    (hb : Bytes b) (h : t.decode q b = some v) (hi : (t.decode ideal b).isSome = true) : t.encode v = some b := by
  obtain ⟨v', hd⟩ := Option.isSome_iff_exists.1 hi
  cases (implemented_extends_ideal q t b v' hc hb hd).symm.trans h
  exact canonical t b _ hc hb hd

/-! ## the declared limits of the wire messages, read off the decoders
    ("64 keys per offer, 2048-byte keys and ENRs, 32 ENRs, 256 distances, 1100-byte ping payload,
    2-byte connection id") -/

/-- OFFER: at most 64 content keys of at most 2048 bytes each -/
theorem offer_limits (q : Quirks) (b : List Nat) (v : List SVal) (hb : Bytes b)
    (h : Schemas.offer.decode q b = some v) :
    ∃ keys, v = [.dyn keys] ∧ keys.length ≤ 64 ∧ ∀ k ∈ keys, k.length ≤ 2048 := by
  obtain ⟨x, rfl, h1⟩ := all2_one (limits_enforced q _ b v hb h).1
  obtain ⟨xs, rfl, hk⟩ := inLim_dyn h1
  exact ⟨xs, rfl, hk⟩

/-- NODES: a one-byte total and at most 32 ENRs of at most 2048 bytes each -/
theorem nodes_limits (q : Quirks) (b : List Nat) (v : List SVal) (hb : Bytes b)
    (h : Schemas.nodes.decode q b = some v) :
    ∃ total enrs, v = [.uint 1 total, .dyn enrs] ∧ total < 256 ∧ enrs.length ≤ 32 ∧ ∀ e ∈ enrs, e.length ≤ 2048 := by
  obtain ⟨x, r, rfl, h1, h2⟩ := all2_cons (limits_enforced q _ b v hb h).1
  obtain ⟨y, rfl, h3⟩ := all2_one h2
  obtain ⟨t, rfl, ht⟩ := inLim_uint h1
  obtain ⟨xs, rfl, he⟩ := inLim_dyn h3
  exact ⟨t, xs, rfl, ht, he⟩

/-- CONTENT in its ENR-list form: at most 32 ENRs of at most 2048 bytes each -/
theorem enrs_limits (q : Quirks) (b : List Nat) (v : List SVal) (hb : Bytes b)
    (h : Schemas.enrs.decode q b = some v) :
    ∃ enrs, v = [.dyn enrs] ∧ enrs.length ≤ 32 ∧ ∀ e ∈ enrs, e.length ≤ 2048 := by
  obtain ⟨x, rfl, h1⟩ := all2_one (limits_enforced q _ b v hb h).1
  obtain ⟨xs, rfl, hk⟩ := inLim_dyn h1
  exact ⟨xs, rfl, hk⟩

/-- FINDNODES: at most 256 distances of 2 bytes each -/
theorem findNodes_limits (q : Quirks) (b : List Nat) (v : List SVal) (hb : Bytes b)
    (h : Schemas.findNodes.decode q b = some v) :
    ∃ ds, v = [.vec ds] ∧ ds.length ≤ 256 ∧ ∀ d ∈ ds, d.length = 2 := by
  obtain ⟨x, rfl, h1⟩ := all2_one (limits_enforced q _ b v hb h).1
  obtain ⟨xs, rfl, hd⟩ := inLim_vec h1
  exact ⟨xs, rfl, hd⟩

/-- PING: 8-byte sequence number, 2-byte payload type, payload of at most 1100 bytes -/
theorem ping_limits (q : Quirks) (b : List Nat) (v : List SVal) (hb : Bytes b)
    (h : Schemas.ping.decode q b = some v) :
    ∃ seq ty payload, v = [.uint 8 seq, .uint 2 ty, .bytes payload] ∧ seq < 2 ^ 64 ∧ ty < 2 ^ 16 ∧
      payload.length ≤ 1100 := by
  obtain ⟨x, r, rfl, h1, h2⟩ := all2_cons (limits_enforced q _ b v hb h).1
  obtain ⟨y, r, rfl, h3, h4⟩ := all2_cons h2
  obtain ⟨z, rfl, h5⟩ := all2_one h4
  obtain ⟨s, rfl, hs⟩ := inLim_uint h1
  obtain ⟨t, rfl, ht⟩ := inLim_uint h3
  obtain ⟨p, rfl, hp⟩ := inLim_bytes h5
  exact ⟨s, t, p, rfl, hs, ht, hp⟩

/-- PONG has PING's schema, and so its limits -/
theorem pong_limits (q : Quirks) (b : List Nat) (v : List SVal) (hb : Bytes b)
    (h : Schemas.pong.decode q b = some v) :
    ∃ seq ty payload, v = [.uint 8 seq, .uint 2 ty, .bytes payload] ∧ seq < 2 ^ 64 ∧ ty < 2 ^ 16 ∧
      payload.length ≤ 1100 := ping_limits q b v hb h

/-- FINDCONTENT: a content key of at most 2048 bytes -/
theorem findContent_limits (q : Quirks) (b : List Nat) (v : List SVal) (hb : Bytes b)
    (h : Schemas.findContent.decode q b = some v) : ∃ key, v = [.bytes key] ∧ key.length ≤ 2048 := by
  obtain ⟨x, rfl, h1⟩ := all2_one (limits_enforced q _ b v hb h).1
  obtain ⟨p, rfl, hp⟩ := inLim_bytes h1
  exact ⟨p, rfl, hp⟩

/-- CONTENT in its raw-content form: at most 2048 bytes -/
theorem content_limits (q : Quirks) (b : List Nat) (v : List SVal) (hb : Bytes b)
    (h : Schemas.content.decode q b = some v) : ∃ c, v = [.bytes c] ∧ c.length ≤ 2048 := by
  obtain ⟨x, rfl, h1⟩ := all2_one (limits_enforced q _ b v hb h).1
  obtain ⟨p, rfl, hp⟩ := inLim_bytes h1
  exact ⟨p, rfl, hp⟩

/-- CONTENT in its connection-id form: exactly 2 bytes -/
theorem connectionId_limits (q : Quirks) (b : List Nat) (v : List SVal) (hb : Bytes b)
    (h : Schemas.connectionId.decode q b = some v) : ∃ id, v = [.fix id] ∧ id.length = 2 := by
  obtain ⟨x, rfl, h1⟩ := all2_one (limits_enforced q _ b v hb h).1
  obtain ⟨p, rfl, hp⟩ := inLim_fix h1
  exact ⟨p, rfl, hp⟩

/-- ACCEPT (v0): 2-byte connection id and a valid bit list of at most 64 verdict bits (at most 9 bytes) -/
theorem accept_limits (q : Quirks) (b : List Nat) (v : List SVal) (hb : Bytes b)
    (h : Schemas.accept.decode q b = some v) :
    ∃ id bits, v = [.fix id, .bits bits] ∧ id.length = 2 ∧ validBits 64 bits = true ∧ bits.length ≤ 9 := by
  obtain ⟨x, r, rfl, h1, h2⟩ := all2_cons (limits_enforced q _ b v hb h).1
  obtain ⟨y, rfl, h3⟩ := all2_one h2
  obtain ⟨i, rfl, hi⟩ := inLim_fix h1
  obtain ⟨bs, rfl, hv⟩ := inLim_bits h3
  exact ⟨i, bs, rfl, hi, hv, validBits_len hv⟩

/-- ACCEPT (v0) carries one verdict bit per offered key: go-bitfield's image of the verdict list `bits`
    (`Bl.encode`: bits, sentinel, padding) is an in-limit `ContentKeys` value exactly when there are at most 64
    verdicts — "64 keys per offer" on the reply side — and it reads back as `bits`. -/
theorem accept_bitlist (id : List Nat) (hid : id.length = 2) (bits : List Bool) :
    Schemas.accept.inLim [.fix id, .bits (Bl.encode bits)] = decide (bits.length ≤ 64) ∧
    Bl.decode (Bl.encode bits) = some bits := by
  refine ⟨?_, Bl.decode_encode bits⟩
  simp [Schemas.accept, Ty.inLim, Ty.slots, all2, inLim, hid, validBits_image bits 64]

/-- ACCEPT (v1): 2-byte connection id and at most 64 one-byte verdicts -/
theorem acceptV1_limits (q : Quirks) (b : List Nat) (v : List SVal) (hb : Bytes b)
    (h : Schemas.acceptV1.decode q b = some v) :
    ∃ id codes, v = [.fix id, .vec codes] ∧ id.length = 2 ∧ codes.length ≤ 64 ∧ ∀ c ∈ codes, c.length = 1 := by
  obtain ⟨x, r, rfl, h1, h2⟩ := all2_cons (limits_enforced q _ b v hb h).1
  obtain ⟨y, rfl, h3⟩ := all2_one h2
  obtain ⟨i, rfl, hi⟩ := inLim_fix h1
  obtain ⟨xs, rfl, hc⟩ := inLim_vec h3
  exact ⟨i, xs, rfl, hi, hc⟩

/-- every in-limit ping-extension payload fits the 1100-byte payload field of PING / PONG: wrapping it gives an
    in-limit PING (so the two layers of limits agree) -/
theorem ping_payload_fits (t : Ty)
    (ht : t ∈ [Schemas.clientInfo, Schemas.basicRadius, Schemas.historyRadius, Schemas.errorPayload])
    (v : List SVal) (b : List Nat) (hl : t.inLim v = true) (he : t.encode v = some b)
    (seq ty : Nat) (hs : seq < 2 ^ 64) (hty : ty < 2 ^ 16) :
    Schemas.ping.inLim [.uint 8 seq, .uint 2 ty, .bytes b] = true := by
  have hb : b.length ≤ 1100 := Nat.le_trans (ty_encode_bound hl he)
    ((by decide : ∀ t ∈ [Schemas.clientInfo, Schemas.basicRadius, Schemas.historyRadius, Schemas.errorPayload],
      t.bound ≤ 1100) t ht)
  simp [Schemas.ping, Ty.inLim, Ty.slots, all2, inLim, hb, show seq < 256 ^ 8 from hs, show ty < 256 ^ 2 from hty]

/-! ## Negative results: the deviations as decided witnesses on the repository's schemas: two of today's decoders
    (the known findings), one of the tree as found (repaired by 308affd) -/

/-- NEGATIVE (known finding): fastssz `UnmarshalDynamic` takes the 4 bytes `00000000` for an empty list: the 8 bytes
    `04000000 00000000` decode as an OFFER without keys, which encodes to the 4 bytes `04000000`. The ideal decoder
    refuses them. -/
theorem zero_offset_list_breaks_canonical :
    Schemas.offer.decode asImplemented [4, 0, 0, 0, 0, 0, 0, 0] = some [.dyn []] ∧
    Schemas.offer.encode [.dyn []] = some [4, 0, 0, 0] ∧
    Schemas.offer.decode ideal [4, 0, 0, 0, 0, 0, 0, 0] = none := by decide

/-- NEGATIVE (known finding): ztyp containers of fixed-size fields read their fields and ignore the rest: 32 bytes of
    radius followed by any byte decode as a BasicRadius payload that encodes to the first 32 bytes only. -/
theorem trailing_bytes_break_canonical :
    Schemas.basicRadius.decode asImplemented (List.replicate 32 7 ++ [9]) = some [.fix (List.replicate 32 7)] ∧
    Schemas.basicRadius.encode [.fix (List.replicate 32 7)] = some (List.replicate 32 7) ∧
    Schemas.basicRadius.decode ideal (List.replicate 32 7 ++ [9]) = none := by decide

/-- NEGATIVE for the tree as found (`guard = true`): `PortalReceipts` / `EphemeralHeaderPayload` started decoding with
    `if size < 4 { return ErrSize }`, and the empty list — an in-limit value — encodes to 0 bytes, which that guard
    refuses. Repaired by 308affd (`size != 0 && size < 4`; 1 to 3 bytes are refused by the list decoder anyway), which is
    `guard = false`: it round-trips. -/
theorem empty_bare_list_does_not_roundtrip :
    (Schemas.portalReceipts true).inLim [.dyn []] = true ∧
    (Schemas.portalReceipts true).encode [.dyn []] = some [] ∧
    (Schemas.portalReceipts true).decode asImplemented [] = none ∧
    (Schemas.ephemeralHeaderPayload true).decode asImplemented [] = none ∧
    (Schemas.portalReceipts false).decode asImplemented [] = some [.dyn []] ∧
    (Schemas.ephemeralHeaderPayload false).decode asImplemented [] = some [.dyn []] := by decide

/-! ## finite table checks on the schemas of the repository (decided, over the 49 listed schemas only) -/

/-- decoder limits within encoder limits, positive item sizes: the hypothesis `t.consistent` of the theorems -/
theorem schemas_consistent (guard : Bool) : (Schemas.all guard).all Ty.consistent = true := by
  cases guard <;> decide

/-- without the `size < 4` guard (`guard = false`: today's code, since 308affd) no type has a size guard of its own -/
theorem guard_zero_ideal : (Schemas.all false).all (fun t => t.guard == 0) = true := by decide

/-- with the `size < 4` guard (`guard = true`), exactly the two bare lists have a size guard; "as implemented" in the
    name refers to the tree as found -/
theorem guard_as_implemented :
    ((Schemas.all true).filter (fun t => t.guard != 0)) =
      [Schemas.ephemeralHeaderPayload true, Schemas.portalReceipts true] := by decide

/-- the schemas whose own limits do not keep the encoding below 2^32 bytes (16 MiB transactions × 16384,
    128 MiB receipts × 16384): for these `roundtrip` keeps its size hypothesis; for the other 46, `roundtrip_bounded` -/
theorem unbounded_types (guard : Bool) :
    (Schemas.all guard).filter (fun t => !decide (t.bound < 2 ^ 32)) =
      [Schemas.blockBodyLegacy, Schemas.blockBodyShanghai, Schemas.portalReceipts guard] := by
  cases guard <;> decide

/-- largest encodings of the wire messages, from their schemas (PING/PONG 1114, FINDNODES 516, NODES 65669,
    FINDCONTENT 2052, CONTENT 2048, connection id 2, ENR list 65664, OFFER 131332, ACCEPT 15 / 70 bytes) -/
theorem wire_message_bounds :
    [Schemas.ping, Schemas.pong, Schemas.findNodes, Schemas.nodes, Schemas.findContent, Schemas.content,
     Schemas.connectionId, Schemas.enrs, Schemas.offer, Schemas.accept, Schemas.acceptV1].map Ty.bound =
    [1114, 1114, 516, 65669, 2052, 2048, 2, 65664, 131332, 15, 70] := by decide

/-- the types whose canonicity is proved for the decoders as implemented (`canonical_as_implemented`) -/
theorem hole_free_types :
    [Schemas.ping, Schemas.pong, Schemas.findNodes, Schemas.findContent, Schemas.content, Schemas.connectionId,
     Schemas.accept, Schemas.acceptV1, Schemas.clientInfo, Schemas.errorPayload, Schemas.capabilities,
     Schemas.proofHashesAccumulator, Schemas.proofHistoricalRoots, Schemas.proofSummariesCapella,
     Schemas.proofSummariesDeneb, Schemas.blockHeaderWithProof, Schemas.findContentEphemeralKey,
     Schemas.offerEphemeralKey, Schemas.offerEphemeralHeader, Schemas.headerRecord, Schemas.epochAccumulator,
     Schemas.sszProof, Schemas.masterAccumulator, Schemas.lcUpdateKey, Schemas.lcBootstrapKey,
     Schemas.lcFinalityKey, Schemas.lcOptimisticKey,
     Schemas.nibbles, Schemas.accountTrieNodeKey, Schemas.contractStorageTrieNodeKey, Schemas.encodedTrieNode,
     Schemas.trieNode, Schemas.trieProof, Schemas.contractByteCode, Schemas.contractBytecodeContainer,
     Schemas.accountTrieNodeWithProof, Schemas.contractStorageTrieNodeWithProof,
     Schemas.contractBytecodeWithProof].all holeFree = true := by decide

/-- … and the complement within the table: the types today's decoders are NOT canonical on -/
theorem not_hole_free_types (guard : Bool) :
    (Schemas.all guard).filter (fun t => !holeFree t) =
      [Schemas.nodes, Schemas.enrs, Schemas.offer, Schemas.basicRadius, Schemas.historyRadius,
       Schemas.ephemeralHeaderPayload guard, Schemas.blockBodyLegacy, Schemas.blockBodyShanghai,
       Schemas.portalReceipts guard, Schemas.summariesKey, Schemas.contractBytecodeKey] := by
  cases guard <;> decide

/-! ## non-vacuity: the hypotheses are met by concrete, non-trivial values -/

-- an in-limit OFFER with two keys: encodes, and the encoding decodes back (both decoders)
example : Schemas.offer.inLim [.dyn [[1, 2], [3]]] = true := by decide
example : Schemas.offer.encode [.dyn [[1, 2], [3]]] = some [4, 0, 0, 0, 8, 0, 0, 0, 10, 0, 0, 0, 1, 2, 3] := by
  decide
example : Schemas.offer.decode asImplemented [4, 0, 0, 0, 8, 0, 0, 0, 10, 0, 0, 0, 1, 2, 3] = some [.dyn [[1, 2], [3]]] := by
  decide
-- PING: sequence number 5, payload type 1, two payload bytes
example : Schemas.ping.encode [.uint 8 5, .uint 2 1, .bytes [10, 11]] =
    some [5, 0, 0, 0, 0, 0, 0, 0, 1, 0, 14, 0, 0, 0, 10, 11] := by decide
-- over-limit: a 3-byte connection id is refused by the encoder; 65 keys are refused by the encoder
example : Schemas.connectionId.inLim [.fix [1, 2, 3]] = false ∧ Schemas.connectionId.encode [.fix [1, 2, 3]] = none := by
  decide
example : Schemas.offer.inLim [.dyn (List.replicate 65 [])] = false ∧
    Schemas.offer.encode [.dyn (List.replicate 65 [])] = none := by decide
-- over-limit that DOES encode: a 10-byte bit list passes the encoder's 64-BYTE bound; the decoder refuses it
example : Schemas.accept.inLim [.fix [0, 0], .bits (List.replicate 10 1)] = false ∧
    (Schemas.accept.encode [.fix [0, 0], .bits (List.replicate 10 1)]).isSome = true ∧
    Schemas.accept.decode asImplemented ([0, 0, 6, 0, 0, 0] ++ List.replicate 10 1) = none := by decide
-- shifted / decreasing offsets are refused
example : Schemas.ping.decode asImplemented [5, 0, 0, 0, 0, 0, 0, 0, 1, 0, 15, 0, 0, 0, 10, 11] = none := by decide
example : Schemas.offer.decode asImplemented [4, 0, 0, 0, 8, 0, 0, 0, 7, 0, 0, 0, 1, 2, 3] = none := by decide
-- a ping payload: client info "ab", radius 32 × 0xff, capabilities [0, 1]
example : Schemas.clientInfo.decode asImplemented
    ([40, 0, 0, 0] ++ List.replicate 32 255 ++ [42, 0, 0, 0] ++ [97, 98] ++ [0, 0, 1, 0]) =
    some [.bytes [97, 98], .fix (List.replicate 32 255), .vec [[0, 0], [1, 0]]] := by decide

#print axioms roundtrip
#print axioms roundtrip_bounded
#print axioms overlimit
#print axioms limits_enforced
#print axioms canonical
#print axioms canonical_as_implemented
#print axioms implemented_extends_ideal
#print axioms canonical_partial
#print axioms offer_limits
#print axioms nodes_limits
#print axioms enrs_limits
#print axioms findNodes_limits
#print axioms ping_limits
#print axioms pong_limits
#print axioms findContent_limits
#print axioms content_limits
#print axioms connectionId_limits
#print axioms accept_limits
#print axioms accept_bitlist
#print axioms acceptV1_limits
#print axioms ping_payload_fits
#print axioms zero_offset_list_breaks_canonical
#print axioms trailing_bytes_break_canonical
#print axioms empty_bare_list_does_not_roundtrip
#print axioms schemas_consistent
#print axioms guard_zero_ideal
#print axioms guard_as_implemented
#print axioms unbounded_types
#print axioms wire_message_bounds
#print axioms hole_free_types
#print axioms not_hole_free_types
end Props.C14
