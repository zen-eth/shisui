import Shisui.Store.ExecIdeal
import Shisui.Store.Concurrent
/-! # C05 — Storage stays within capacity by pruning farthest-first

Model: `St.Store`/`St.put`/`St.prune` (`Put` and `prune` of `storage/pebble/storage.go`), keys = big-endian value of
xor(contentId, nodeId) (pebble's bytewise order on 32-byte keys, `Props.C06.key_order_is_big_endian`), item size = 32 + value length,
`expectSize = cap/20`. `StX.exec_ideal_put` shows that `put` (with its `prune`) of the executable model run by the driver, byte-order
switch off, is this model's; `StX.get` and `StX.reopen` have no such lemma. Sequential histories: proved for every history. Concurrent puts: the statement is FALSE of the
code (and of the step model); the negation is proved with an explicit schedule (`concurrent_counter_underreports`),
which the check replays against the real store through the yield hook — recorded as a known finding. -/
namespace Props.C05
open St

/-- "Every put that would leave the store over its configured capacity frees, in the same call, at least 5% of
    the capacity (or everything it holds)" -/
theorem prune_frees (s : Store) (h : Inv s) :
    (prune s).items = [] ∨ s.cap / 20 ≤ s.tracked - (prune s).tracked := St.prune_frees s h

/-- "with items no larger than 5% of the capacity the bytes held never exceed the capacity once puts have
    returned" — every sequential history from an empty store -/
theorem bounded_sequential (cap : Nat) (ops : List (Nat × Nat))
    (h : ∀ op ∈ ops, 0 < op.1 ∧ 32 + op.2 ≤ cap / 20) : held (run (init cap) ops).items ≤ cap :=
  St.run_bounded ops (init cap) h (init_inv cap) (Nat.zero_le cap)

/-- "the usage figure the store keeps and persists never under-reports what is held" — every sequential history
    (the persisted figure equals the kept one: both are written in the same batch) -/
theorem counter_ge_held_sequential (cap : Nat) (ops : List (Nat × Nat)) (h : ∀ op ∈ ops, 0 < op.1) :
    held (run (init cap) ops).items ≤ (run (init cap) ops).tracked :=
  (St.run_inv ops (init cap) h (init_inv cap)).1.acct

/-- "Each pruning pass removes a farthest-first prefix: every item it drops is at least as far from the node id as
    every item it keeps." -/
theorem farthest_first (s : Store) (h : Inv s) :
    ∃ dropped, s.items = (prune s).items ++ dropped ∧ ∀ k ∈ (prune s).items, ∀ d ∈ dropped, k.1 < d.1 := by
  obtain ⟨d, hi, -⟩ := prune_spec s
  exact ⟨d, hi, (List.pairwise_append.mp (hi ▸ h.asc)).2.2⟩

/-- the driver's executable model (switch off) is `St.put` -/
theorem exec_model_is_ideal (s : StX.Store) (x : StX.Item) :
    StX.proj (StX.put false s x).1 = (St.put (StX.proj s) x.be x.len).1 := (StX.exec_ideal_put s x).1

/-- NEGATIVE result (concurrent clause): two puts interleaved as ⟨Add A⟩⟨Add B⟩⟨commit B⟩⟨commit A⟩ leave a persisted
    figure below the bytes held (the figures: `Conc.quirk_nonatomic_put_breaks_C05`). -/
theorem concurrent_counter_underreports :
    let r := Conc.run [.add 0, .add 1, .commit 1, .commit 0] Conc.twoPuts
    r.persisted < Conc.held r.items := Conc.quirk_nonatomic_put_breaks_C05.2.2

/-- what a lock around the two sections would give: counter = persisted = held after every sequence of puts and pruning
    passes (the justification of the repair recorded with the known finding) -/
theorem atomic_sections_keep_counter (gs : List ConcP.G) (s : ConcP.Sh) (h : ConcP.Inv s) :
    ConcP.Inv (gs.foldl ConcP.gstep s) :=
  List.foldlRecOn gs ConcP.gstep h fun s hs g _ => ConcP.gstep_inv s g hs

/-- a thread's events run uninterrupted in the order the code has ARE the two sections -/
theorem today_is_sections (s : ConcP.Sh) (th : ConcP.Th) (hf : th.freed ≤ s.held + th.len) (hi : ConcP.Inv s) :
    ConcP.run s [th] (ConcP.today 0) = ConcP.gstep (ConcP.gstep s (.put th.len)) (.prune th.freed) := by
  -- both sides by computation: the fold over the five events, the two sections; `hf` is the guard of `gstep (.prune _)`
  simp only [ConcP.run, ConcP.today, List.foldl, ConcP.step, List.getElem?_cons_zero, List.set_cons_zero, ConcP.gstep, hf,
    if_true]

/-- the order the code has: a put that arrives while another one waits in the fsync of its pruning batch loses nothing, whatever the
    sizes (the forced schedule `concprune` of the run): everything of A that touches the shared state is done when it waits,
    so B (here without a prune of its own) finds and leaves counter = persisted = held -/
theorem sync_window_safe_today (s : ConcP.Sh) (a b : ConcP.Th) (hi : ConcP.Inv s) :
    ConcP.Inv (ConcP.run s [a, b] (ConcP.today 0 ++ [.add 1, .commitItem 1])) := by
  -- by computation of the fold over the seven events; `hi.1` then makes counter and bytes held the same expression
  simp only [ConcP.run, ConcP.today, List.cons_append, List.nil_append, List.foldl, ConcP.step, List.getElem?_cons_zero,
    List.getElem?_cons_succ, List.set_cons_zero, List.set_cons_succ, ConcP.Inv, hi.1, and_self]

/-- NEGATIVE: with the counter's Store moved behind the commit (seeded change C05d) the same window loses put B's bytes for
    good. The schedule: A adds, commits, loads, commits its deletes and waits in the fsync; B meanwhile adds onto the
    unreduced counter and commits, then is held at `prune.beforeSubtract`; A returns and its late Store wipes B's Add out; B's
    pruning pass then persists a counter that is short by exactly B's bytes (numbers of the forced schedule). -/
theorem store_after_commit_underreports :
    let a : ConcP.Th := { len := 10032, freed := 50160 }
    let b : ConcP.Th := { len := 10032, freed := 50160 }
    let s : ConcP.Sh := { tracked := 993168, held := 993168, persisted := 993168 }
    let r := ConcP.run s [a, b] [.add 0, .commitItem 0, .pLoad 0, .pCommit 0, .add 1, .commitItem 1, .pStore 0, .pLoad 1, .pStore 1, .pCommit 1]
    r.persisted + 10032 = r.held ∧ r.tracked + 10032 = r.held := by decide

-- non-vacuity: a reachable state that has pruned once
example : (run (init 1000) [(5, 400), (9, 400), (7, 100), (3, 50)]).items = [(3, 50), (5, 400), (7, 100)] := by decide
example : Inv (run (init 1000) [(5, 400), (9, 400), (7, 100), (3, 50)]) :=
  (St.run_inv _ _ (by decide) (init_inv 1000)).1

#print axioms prune_frees
#print axioms bounded_sequential
#print axioms counter_ge_held_sequential
#print axioms farthest_first
#print axioms exec_model_is_ideal
#print axioms concurrent_counter_underreports
#print axioms atomic_sections_keep_counter
#print axioms today_is_sections
#print axioms sync_window_safe_today
#print axioms store_after_commit_underreports
end Props.C05
