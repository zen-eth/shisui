import Shisui.Gossip
import Shisui.RadiusCache
/-! # C20 — Gossip goes to at most eight covered peers and never back to the source

Model: `Gs.Allowed` — what `GossipAndReturnPeers` may return, as a relation (the farther covered nodes are shuffled):
among the ≤ 32 closest table nodes, those whose cached radius covers the content (in-range test of C06, a parameter) and
that are not the source; the first four in order, plus `min 4` of the others. `Rc` — the radius cache under ping/pong
reports. `handlePing` processes a ping's payload in a fresh goroutine, so two pings of one peer may be applied out of
order: the model takes the processing order as given (partial). -/
namespace Props.C20

/-- "Gossip offers the whole key/content batch to at most 8 of the 32 table nodes nearest the content id: the 4 closest (by
    log-distance) whose last reported radius covers it plus up to 4 chosen at random among the other covered ones, never the
    node the content came from and never a node whose radius is unknown." -/
theorem gossip_rule (c : Gs.Ctx) (result : List Nat) (h : Gs.Allowed c result) :
    result.length ≤ 8 ∧
    (∀ n ∈ result, n ∈ c.closest ∧ (∃ r, c.radius n = some r ∧ c.covers n r = true) ∧ c.src ≠ some n) ∧
    (∀ n ∈ (Gs.covered c).take 4, n ∈ result) := by
  refine ⟨?_, fun n hn => (Gs.mem_covered c n).mp (h.mem_covered hn), fun n hn => List.mem_of_mem_take (h.parts.1 ▸ hn)⟩
  rw [← List.take_append_drop 4 result, List.length_append]
  exact Nat.add_le_add (List.length_take_le 4 result) h.parts.2.2

/-- the Boolean check the driver evaluates on every REAL gossip result (`Gs.allowedB`, stronger than `Gs.Allowed`) implies the
    same clauses -/
theorem checked_relation_rule (c : Gs.Ctx) (result : List Nat) (h : Gs.allowedB c result = true) :
    result.length ≤ 8 ∧
    (∀ n ∈ result, n ∈ c.closest ∧ (∃ r, c.radius n = some r ∧ c.covers n r = true) ∧ c.src ≠ some n) ∧
    (∀ n ∈ (Gs.covered c).take 4, n ∈ result) := gossip_rule c result (Gs.allowedB_sound c result h)

/-- "The radius used for a node is the one it most recently reported in a ping or pong, in any supported payload type." -/
theorem radius_is_last_report (c : Option Nat) (rs : List Rc.Report) :
    Rc.run c rs = match (rs.filter Rc.applies).getLast? with
      | some r => some r.radius
      | none => c := Rc.radius_is_last_report c rs

/-- a node that never was a table member when it reported keeps an unknown radius, hence is never a gossip target -/
theorem unknown_never_target (rs : List Rc.Report) (h : ∀ r ∈ rs, r.member = false)
    (c : Gs.Ctx) (n : Nat) (hc : c.radius n = Rc.run none rs) (result : List Nat) (ha : Gs.Allowed c result) :
    n ∉ result := by
  intro hn
  obtain ⟨_, ⟨r, hr, _⟩, _⟩ := (Gs.mem_covered c n).mp (ha.mem_covered hn)
  -- no report applies, so the cache still holds `none`
  rw [hc, Rc.radius_is_last_report, List.filter_eq_nil_iff.mpr fun r hr => by simp [Rc.applies, h r hr]] at hr
  cases hr

/-- with the by-hand entry point: the cache holds what the LAST setting event set - an applying report its radius, an AddEnr by
    which the node entered the table the maximum; AddEnr for a node already in the table sets nothing -/
theorem radius_is_last_setter (c : Option Nat) (es : List Rc.Ev) :
    Rc.runEv c es = match (es.filterMap Rc.sets).getLast? with
      | some v => some v
      | none => c := by
  rw [Rc.runEv, Rc.foldl_last_setter Rc.stepEv_sets]
  cases (es.filterMap Rc.sets).getLast? <;> rfl

/-- "The radius used for a node is the one it most recently reported …": AddEnr for a node already in the table leaves it -/
theorem addEnr_known_keeps_radius (c : Option Nat) : Rc.stepEv c (.addEnr false) = c := rfl

example : Rc.runEv none [.addEnr true, .report ⟨true, true, true, 5⟩, .addEnr false] = some 5 := by decide

example : Rc.run none [⟨true, true, true, 5⟩, ⟨true, false, true, 9⟩, ⟨true, true, true, 7⟩, ⟨false, true, true, 1⟩] = some 7 := by decide

#print axioms gossip_rule
#print axioms checked_relation_rule
#print axioms radius_is_last_report
#print axioms unknown_never_target
#print axioms radius_is_last_setter
#print axioms addEnr_known_keeps_radius
end Props.C20
