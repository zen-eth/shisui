import Shisui.Offer
import Shisui.OfferLifecycle
import Shisui.Bitlist
import Shisui.Framing
/-! # C09 — OFFER gets one verdict per key and accepted content arrives intact under its key

Model: `Of.handleOffer` (`filterContentKeysV0/V1`, permit, connection id, verdict rewriting when no slot),
`Of.pick` (what offerer and receiver select with the verdict list), `Of.handleOfferedContents` (count check),
composed with the bit-list codec `Bl` (version 0 ACCEPT) and the stream framing `Fr` (C15); `Ofl` (OfferLifecycle.lean):
the in-flight marks over histories of offers and transfer ends. `quirkV0 = false` is the
model the theorems are about; `quirkV0 = true` keeps the version-0 accept bits when no slot was obtained (/repo clears the bit
list since c605555). -/
namespace Props.C09
open Of

/-- "The reply to an OFFER carries exactly one verdict per offered key, in order" -/
theorem verdict_count (q : Bool) (v : Nat) (e : Env) (p : Bool) (cid : Nat) (keys : List Nat) :
    (handleOffer q v e p cid keys).verdicts.length = keys.length := Of.verdict_count q v e p cid keys

/-- "a key is marked accepted only if the node's in-range test admits it, it is not already stored, it is not (in
    version 1) already being received, and a transfer slot was obtained for this offer" -/
theorem accepted_only_if (v : Nat) (e : Env) (p : Bool) (cid : Nat) (keys : List Nat) (i : Nat) (hi : i < keys.length)
    (h : (handleOffer false v e p cid keys).verdicts[i]? = some .accepted) :
    e.inRange keys[i] = true ∧ e.stored keys[i] = false ∧ (v ≠ 0 → e.inflight keys[i] = false) ∧ p = true :=
  Of.accepted_only_if v e p cid keys i hi h

example : (handleOffer false 1 { inRange := fun k => k != 3, stored := fun k => k == 2, inflight := fun k => k == 4, queueFull := false }
    true 9 [1, 2, 3, 4]).verdicts = [.accepted, .alreadyStored, .notWithinRadius, .inProgress] := by decide

/-- "exactly when at least one key is accepted the reply announces a connection id on which the node is really
    waiting" (and it waits for exactly the accepted keys) -/
theorem connid_iff (v : Nat) (e : Env) (p : Bool) (cid : Nat) (keys : List Nat) :
    ((handleOffer false v e p cid keys).connId.isSome ↔ (handleOffer false v e p cid keys).waitingFor ≠ []) ∧
    ((handleOffer false v e p cid keys).connId.isSome →
       (handleOffer false v e p cid keys).waitingFor = acceptedKeys keys (handleOffer false v e p cid keys).verdicts) :=
  Of.connid_iff v e p cid keys

/-- "the items handed to validation are exactly the offered contents of the accepted keys paired with those keys in
    order": offerer's selection zipped with receiver's selection = selection of the zipped pairs -/
theorem pairing {α β : Type} (ks : List α) (cs : List β) (vs : List Verdict)
    (h1 : ks.length = vs.length) (h2 : cs.length = vs.length) :
    (pick ks vs).zip (pick cs vs) = pick (ks.zip cs) vs ∧ (pick ks vs).length = (pick cs vs).length :=
  Of.pairing ks cs vs h1 h2

/-- end to end through the codecs: the version-0 verdict bit list and the content stream both round-trip, so the
    receiver decodes exactly the verdicts sent and exactly the contents written -/
theorem codecs_roundtrip (bits : List Bool) (contents : List (List Nat)) (h : ∀ x ∈ contents, x.length < 2 ^ 32) :
    Bl.decode (Bl.encode bits) = some bits ∧ Fr.decContents (Fr.encContents contents) = some contents :=
  ⟨Bl.decode_encode bits, Fr.contents_roundtrip contents h⟩

/-- "a stream with a different item count is discarded" -/
theorem count_mismatch_dropped {α β : Type} (keys : List α) (contents : List β) (h : keys.length ≠ contents.length) :
    handleOfferedContents keys contents = none := Of.count_mismatch_dropped keys contents h

/-- NEGATIVE (switch `quirkV0`): version 0 with no slot keeps the accept bits, announces no id and nobody waits (decided witness) -/
theorem v0_ratelimited_witness :
    let e : Env := { inRange := fun _ => true, stored := fun _ => false, inflight := fun _ => false, queueFull := false }
    let r := handleOffer true 0 e false 7 [1, 2]
    r.verdicts = [Verdict.accepted, Verdict.accepted] ∧ r.connId = none ∧ r.waitingFor = [] := by
  decide

/-! ## "not (in version 1) already being received", over every history of offers and transfer ends (`Ofl`) -/

/-- over every sequence of offers and transfer ends, no key is ever being received by two transfers at once -/
theorem never_received_twice (es : List Ofl.Ev) : Ofl.Inv (Ofl.run {} es).1 :=
  Ofl.run_inv {} es fun _ _ _ _ _ hi => nomatch hi

/-- a key that an unfinished transfer is waiting for gets the verdict "in progress" from every further version-1 offer -/
theorem pending_key_declined (s : Ofl.St) (i : Nat) (w : List Nat) (k : Nat) (hw : s.waiting[i]? = some w) (hk : k ∈ w) :
    verdictV1 (Ofl.env s) k = .inProgress := by
  rw [Ofl.verdictV1_env, (Ofl.inflight_iff s k).mpr ⟨w, List.mem_of_getElem? hw, hk⟩]; rfl

/-- the end of one transfer clears nothing that another transfer is waiting for -/
theorem finish_keeps_others (s : Ofl.St) (n j : Nat) (hne : j ≠ n) :
    (Ofl.step s (.finish n)).1.waiting[j]? = s.waiting[j]? := List.getElem?_set_ne (Ne.symm hne)

/-- an accepted key was not being received before, and is from the reply on -/
theorem accepted_becomes_inflight (s : Ofl.St) (keys : List Nat) (k : Nat)
    (h : k ∈ (handleOffer false 1 (Ofl.env s) true 7 keys).waitingFor) :
    Ofl.inflight s k = false ∧ Ofl.inflight (Ofl.step s (.offer keys)).1 k = true :=
  ⟨((Ofl.mem_waitingFor s keys 7 k).mp h).2, Ofl.stepM_v1 s keys ▸ Ofl.offer_marks s 1 keys 7 k h⟩

/-- a version-0 offer does not consult the marks but sets them: a version-1 offer arriving while it is pending declines -/
theorem v0_accepted_is_marked (s : Ofl.St) (keys : List Nat) (k : Nat)
    (h : k ∈ (handleOffer false 0 (Ofl.env s) true 7 keys).waitingFor) :
    Ofl.inflight (Ofl.stepM s (.offer 0 keys)).1 k = true := Ofl.v0_accepted_is_marked s keys k h

example : ((Ofl.stepM (Ofl.stepM {} (.offer 0 [4])).1 (.offer 1 [4, 5])).2) = [.inProgress, .accepted] := by decide

/-- the history of the seeded change C09c: A = {1,2} pending, B = {2,3} ends, C = {2} must still be declined -/
example : (Ofl.run {} [.offer [1, 2], .offer [2, 3], .finish 1, .offer [2]]).2 =
    [[.accepted, .accepted], [.inProgress, .accepted], [], [.inProgress]] := by decide

#print axioms verdict_count
#print axioms accepted_only_if
#print axioms connid_iff
#print axioms pairing
#print axioms codecs_roundtrip
#print axioms count_mismatch_dropped
#print axioms v0_ratelimited_witness
#print axioms never_received_twice
#print axioms pending_key_declined
#print axioms finish_keeps_others
#print axioms accepted_becomes_inflight
#print axioms v0_accepted_is_marked
end Props.C09
