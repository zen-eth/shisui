import Shisui.LightClient
import Shisui.LightClientSeq
/-! # C12 — The light client only advances on verified, sufficiently signed updates

Model (`Shisui/LightClient.lean`, `Shisui/LightClientSeq.lean`, namespace `Lc`): `Lc.verify` = `VerifyGenericUpdate`
(`beacon/light_client.go:291-353`), `Lc.apply` = `ApplyGenericUpdate` (382-443) in its four stages, `Lc.bootstrap` =
`bootstrap()` (230-273), `Lc.process`/`Lc.run` = the verify-then-apply rounds of `Sync`/`Advance`, `Lc.Reach` = any
sequence of applied updates. Headers are slots, committees opaque identities; `finProofOk`, `nextProofOk`,
`committeeProofOk` are the outcomes of the three Merkle branch checks (`Lc.finalityBranchOk` depth 6 index 41,
`Lc.nextCommitteeBranchOk` 5/23, `Lc.currentCommitteeBranchOk` 5/22 — a fold over an arbitrary hash `H`), and
`sigOk c` says "the aggregate BLS signature is valid for exactly the keys committee `c` selects by the participation
bits" (BLS and SSZ hashing are trusted; the driver evaluates the folds, the domain and the signing root itself with an
executable SHA-256 and compares every verdict and every resulting store with the Go code).

`Lc.bootstrap` carries the switch `quirk`: the code today compares the trusted checkpoint with the root of
the whole `LightClientHeader` container instead of the beacon block root. Theorems below are about the ideal model
(`quirk = false`); `quirk_container_root_breaks_C12` is the decided witness for the deviation. -/
namespace Props.C12
open Lc

/-- "An update passes verification only if at least one committee member signed, its slots are ordered and not in the
    future, its signature period fits the store, it is relevant (newer than the finalized header or supplying a missing
    next committee), its finality and next-committee Merkle branches hold against the attested state root, and the
    aggregate BLS signature is valid for exactly the participating keys of the committee the store holds for that
    period." — all seven conditions, for every store, update and clock. -/
theorem verify_sound (st : Store) (u : Update) (now : Nat) (h : verify st u now = .ok ()) :
    1 ≤ u.bits ∧ now ≥ u.sigSlot ∧ u.sigSlot > u.attSlot ∧ u.attSlot ≥ finSlotOf u ∧
    (period u.sigSlot = period st.finSlot ∨ (st.next.isSome ∧ period u.sigSlot = period st.finSlot + 1)) ∧
    (u.attSlot > st.finSlot ∨ (st.next.isNone ∧ u.nextComm.isSome ∧ period u.attSlot = period st.finSlot)) ∧
    (u.fin.isSome → u.finBranch = true → u.finProofOk = true) ∧
    (u.nextComm.isSome → u.nextBranch = true → u.nextProofOk = true) ∧
    (∃ c, committeeFor st u = some c ∧ u.sigOk c = true) := Lc.verify_sound st u now h

/-- the committee the signature is checked against is the one the store holds for the signature period:
    the current one for the store's own period, the stored next one otherwise -/
theorem committee_for_period (st : Store) (u : Update) :
    (period u.sigSlot = period st.finSlot → committeeFor st u = some st.cur) ∧
    (period u.sigSlot ≠ period st.finSlot → committeeFor st u = st.next) :=
  ⟨fun h => if_pos h, fun h => if_neg h⟩

/-- `verify` refuses exactly when one of the seven conditions is violated, and then reports one of the violated ones
    (this is what lets the driver accept any member of the violated set as the implementation's error) -/
theorem verify_complete (st : Store) (u : Update) (now : Nat) :
    (verify st u now = .ok () ↔ violated st u now = []) ∧
    (∀ e, verify st u now = .error e → e ∈ violated st u now) :=
  ⟨Lc.verify_ok_iff, fun _ h => Lc.firstErr_mem (Lc.verify_eq_first_violated st u now ▸ h)⟩

/-- "its finality … Merkle branches hold against the attested state root": when the finality check of a verified
    update is the depth-6 / index-41 fold of the code, the finalized header's root sits at generalized index 105
    (`finalized_checkpoint.root`) of EVERY tree that opens the attested state root — or a collision of `H` / a leaf
    that is itself a hash of two chunks is exhibited (no injectivity axiom). -/
theorem verified_finality_branch_binds (H : Nat → Nat → Nat) (st : Store) (u : Update) (now : Nat)
    (finRoot stateRoot : Nat) (branch : List Nat) (hlen : 6 ≤ branch.length)
    (hdef : u.finProofOk = finalityBranchOk H finRoot branch stateRoot)
    (hf : u.fin.isSome) (hb : u.finBranch = true) (h : verify st u now = .ok ())
    (T : Mk.Tree) (hT : Mk.root H T = stateRoot) :
    (∃ t, Mk.nodeAt T 6 41 = some t ∧ Mk.root H t = finRoot) ∨ Mk.Collision H ∨ Mk.LeafPre H T := by
  obtain ⟨-, -, -, -, (fin : ¬ finProofBad u), -⟩ := Lc.violated_nil_iff.mp (Lc.verify_ok_iff.mp h)
  exact Lc.branch_sound H hlen (hdef.symm.trans (Lc.not_finProofBad_iff.mp fin hf hb)) T hT

/-- "… and next-committee Merkle branches hold against the attested state root": depth 5 / index 23 = generalized
    index 55 (`next_sync_committee`). -/
theorem verified_next_committee_branch_binds (H : Nat → Nat → Nat) (st : Store) (u : Update) (now : Nat)
    (commRoot stateRoot : Nat) (branch : List Nat) (hlen : 5 ≤ branch.length)
    (hdef : u.nextProofOk = nextCommitteeBranchOk H commRoot branch stateRoot)
    (hn : u.nextComm.isSome) (hb : u.nextBranch = true) (h : verify st u now = .ok ())
    (T : Mk.Tree) (hT : Mk.root H T = stateRoot) :
    (∃ t, Mk.nodeAt T 5 23 = some t ∧ Mk.root H t = commRoot) ∨ Mk.Collision H ∨ Mk.LeafPre H T := by
  obtain ⟨-, -, -, -, -, (next : ¬ nextProofBad u), -⟩ := Lc.violated_nil_iff.mp (Lc.verify_ok_iff.mp h)
  exact Lc.branch_sound H hlen (hdef.symm.trans (Lc.not_nextProofBad_iff.mp next hn hb)) T hT

/-- the literals are the generalized indices of the Altair…Deneb state: 2^6+41 = 105 = (32+20)·2+1, 2^5+23 = 55, 2^5+22 = 54 -/
theorem branch_constants : 2 ^ 6 + 41 = (2 ^ 5 + 20) * 2 + 1 ∧ 2 ^ 6 + 41 = 105 ∧ 2 ^ 5 + 23 = 55 ∧ 2 ^ 5 + 22 = 54 := by
  decide

/-- "Applying updates never moves the finalized or optimistic header backwards, keeps the optimistic header at or
    ahead of the finalized one" — one update, verified or not -/
theorem apply_monotone (st : Store) (u : Update) (hinv : st.finSlot ≤ st.optSlot) :
    st.finSlot ≤ (apply st u).finSlot ∧ st.optSlot ≤ (apply st u).optSlot ∧
    (apply st u).finSlot ≤ (apply st u).optSlot := Lc.apply_monotone st u hinv

/-- the same for ALL sequences of applied updates (`Reach`), hence for every run of verify-then-apply rounds -/
theorem sequences_monotone (s0 s : Store) (h0 : s0.finSlot ≤ s0.optSlot) (h : Reach s0 s) :
    s0.finSlot ≤ s.finSlot ∧ s0.optSlot ≤ s.optSlot ∧ s.finSlot ≤ s.optSlot := by
  induction h with
  | base => exact ⟨Nat.le_refl _, Nat.le_refl _, h0⟩
  | app s u _ ih =>
    have m := Lc.apply_monotone s u ih.2.2
    exact ⟨Nat.le_trans ih.1 m.1, Nat.le_trans ih.2.1 m.2.1, m.2.2⟩

/-- "Applying updates never moves the finalized or optimistic header backwards, keeps the optimistic header at or
    ahead of the finalized one" — along every run of verify-then-apply rounds -/
theorem run_monotone (st : Store) (us : List (Update × Nat)) (h0 : st.finSlot ≤ st.optSlot) :
    st.finSlot ≤ (run st us).finSlot ∧ st.optSlot ≤ (run st us).optSlot ∧ (run st us).finSlot ≤ (run st us).optSlot :=
  sequences_monotone st _ h0 (Lc.run_reach us .base)

/-- "all sequences of such updates applied to a bootstrapped store": from any successful bootstrap (ideal or as coded)
    the optimistic header is at or ahead of the finalized one after every sequence, and the finalized header never
    falls behind the bootstrap header -/
theorem opt_ge_fin_from_bootstrap (q : Bool) (cp : Nat) (b : Bootstrap) (st : Store) (hb : bootstrap q cp b = .ok st)
    (s : Store) (h : Reach st s) : b.slot ≤ s.finSlot ∧ s.finSlot ≤ s.optSlot := by
  obtain ⟨-, -, rfl⟩ := Lc.bootstrap_ok q cp b st hb
  have m := sequences_monotone _ s (Nat.le_refl _) h
  exact ⟨m.1, m.2.2⟩

/-- "changes the finalized header or the committees only for an update with at least two-thirds participation" -/
theorem change_needs_two_thirds (st : Store) (u : Update)
    (h : (apply st u).finSlot ≠ st.finSlot ∨ (apply st u).cur ≠ st.cur ∨ (apply st u).next ≠ st.next) :
    u.bits * 3 ≥ 512 * 2 := Lc.change_needs_two_thirds st u h

/-- sequence form: if the finalized header or a committee differs after a run, the run contains a 2/3 update -/
theorem run_change_needs_two_thirds (st : Store) (us : List (Update × Nat))
    (h : (run st us).finSlot ≠ st.finSlot ∨ (run st us).cur ≠ st.cur ∨ (run st us).next ≠ st.next) :
    ∃ p ∈ us, p.1.bits * 3 ≥ 512 * 2 :=
  Decidable.byContradiction fun hn => by
    obtain ⟨hfin, hcur, hnext⟩ := Lc.run_unchanged st us fun p hp h23 => hn ⟨p, hp, h23⟩
    exact absurd h (by simp [hfin, hcur, hnext])

/-- "and rotates the current committee only to the previously stored next committee" -/
theorem rotate_only_to_next (st : Store) (u : Update) (h : (apply st u).cur ≠ st.cur) :
    st.next = some (apply st u).cur := Lc.rotate_only_to_next st u h

/-- a rotation uses the stored next committee up: afterwards "next" is exactly what this update supplied (nothing, for a
    finality update), never the committee that has just become current -/
theorem rotation_consumes_next (st : Store) (u : Update) (h : (apply st u).cur ≠ st.cur) :
    (apply st u).next = u.nextComm := (Lc.rotation st u h).2

/-- the next committee a VERIFIED update installs is the update's, and its attested header lies in the period of the
    store's finalized header after the update: the committee is the one for the period that follows -/
theorem next_committee_period (st : Store) (u : Update) (now : Nat) (hv : verify st u now = .ok ())
    (hch : (apply st u).next ≠ st.next) :
    (apply st u).next = u.nextComm ∧ (u.nextComm.isSome → period u.attSlot = period (apply st u).finSlot) :=
  Lc.next_committee_period st u now hv hch

/-- `bootstrap()` is a mechanism the property names (`light_client.go:230-273`), not a clause of its statement. Ideal
    model: a bootstrap succeeds only if the beacon block root IS the checkpoint and the current-committee branch
    (depth 5, index 22) holds; the store then holds that header as finalized and optimistic, that committee, and no
    next committee -/
theorem bootstrap_sound (cp : Nat) (b : Bootstrap) (st : Store) (h : bootstrap false cp b = .ok st) :
    b.beaconRoot = cp ∧ b.committeeProofOk = true ∧ st.finSlot = b.slot ∧ st.optSlot = b.slot ∧
    st.cur = b.committee ∧ st.next = none ∧ st.finSlot ≤ st.optSlot := by
  obtain ⟨h1, h2, rfl⟩ := Lc.bootstrap_ok false cp b st h
  exact ⟨h1, h2, rfl, rfl, rfl, rfl, Nat.le_refl _⟩

/-- `isCurrentCommitteeProofValid` is a mechanism the property names (`light_client.go:509-511`), not a clause of its
    statement: when the committee check of a successful bootstrap is the depth-5 / index-22 fold of the code, the
    committee root sits at generalized index 54 (`current_sync_committee`) of EVERY tree that opens the state root — or
    a collision of `H` / a leaf that is itself a hash of two chunks is exhibited -/
theorem bootstrap_committee_branch_binds (H : Nat → Nat → Nat) (cp : Nat) (b : Bootstrap) (st : Store)
    (commRoot stateRoot : Nat) (branch : List Nat) (hlen : 5 ≤ branch.length)
    (hdef : b.committeeProofOk = currentCommitteeBranchOk H commRoot branch stateRoot)
    (h : bootstrap false cp b = .ok st) (T : Mk.Tree) (hT : Mk.root H T = stateRoot) :
    (∃ t, Mk.nodeAt T 5 22 = some t ∧ Mk.root H t = commRoot) ∨ Mk.Collision H ∨ Mk.LeafPre H T := by
  obtain ⟨-, proof_ok, -⟩ := Lc.bootstrap_ok false cp b st h
  exact Lc.branch_sound H hlen (hdef.symm.trans proof_ok) T hT

/-- NEGATIVE result for the code as it is (`quirk = true`, `light_client.go:251`): a bootstrap is accepted although its
    beacon block root is not the checkpoint, and the honest bootstrap for a block-root checkpoint is refused. -/
theorem quirk_container_root_breaks_C12 :
    (∃ cp b st, bootstrap true cp b = .ok st ∧ b.beaconRoot ≠ cp) ∧
    bootstrap true 5 { slot := 64, beaconRoot := 5, containerRoot := 7, committee := 1, committeeProofOk := true, isElectra := true }
      = .error .headerMismatch :=
  ⟨⟨7, { slot := 64, beaconRoot := 5, containerRoot := 7, committee := 1, committeeProofOk := true, isElectra := true },
      _, rfl, by decide⟩, rfl⟩

/-! ## the hypotheses are satisfiable: a bootstrap that succeeds, an update that passes `verify` and sets the next
    committee, a second one across the period boundary that rotates the committee -/
def b0 : Bootstrap :=
  { slot := 8192 * 10 + 100, beaconRoot := 5, containerRoot := 7, committee := 1, committeeProofOk := true, isElectra := true }
def st0 : Store := { finSlot := 8192 * 10 + 100, optSlot := 8192 * 10 + 100, cur := 1, next := none, prevMax := 0, curMax := 0 }
def u0 : Update :=
  { attSlot := 8192 * 10 + 200, sigSlot := 8192 * 10 + 201, fin := some (8192 * 10 + 136), finBranch := true,
    nextComm := some 2, nextBranch := true, bits := 400, finProofOk := true, nextProofOk := true, sigOk := fun c => c == 1 }
def u1 : Update :=
  { attSlot := 8192 * 11 + 70, sigSlot := 8192 * 11 + 71, fin := some (8192 * 11 + 5), finBranch := true,
    nextComm := some 3, nextBranch := true, bits := 512, finProofOk := true, nextProofOk := true, sigOk := fun c => c == 2 }
def u0few : Update := { u0 with bits := 341 }

example : bootstrap false 5 b0 = .ok st0 := rfl
example : verify st0 u0 (8192 * 10 + 201) = .ok () := rfl
example : (apply st0 u0).next = some 2 ∧ (apply st0 u0).finSlot = 8192 * 10 + 136 ∧ (apply st0 u0).optSlot = 8192 * 10 + 200 :=
  ⟨rfl, rfl, rfl⟩
example : verify (apply st0 u0) u1 (8192 * 11 + 80) = .ok () := rfl
example : (apply (apply st0 u0) u1).cur = 2 ∧ (apply (apply st0 u0) u1).next = some 3 := ⟨rfl, rfl⟩
example : run st0 [(u0, 8192 * 10 + 201), (u1, 8192 * 11 + 80)] = apply (apply st0 u0) u1 := rfl
-- the same update with 341 signers verifies but changes neither the finalized header nor a committee
example : verify st0 u0few (8192 * 10 + 201) = .ok () ∧ (apply st0 u0few).finSlot = st0.finSlot ∧ (apply st0 u0few).next = none :=
  ⟨rfl, rfl, rfl⟩
-- a wrong signer, a future signature slot and a broken finality branch are refused
example : verify st0 { u0 with sigOk := fun c => c == 2 } (8192 * 10 + 201) = .error .invalidSignature := rfl
example : verify st0 u0 (8192 * 10 + 200) = .error .invalidTimestamp := rfl
example : verify st0 { u0 with finProofOk := false } (8192 * 10 + 201) = .error .invalidFinalityProof := rfl

#print axioms verify_sound
#print axioms committee_for_period
#print axioms verify_complete
#print axioms verified_finality_branch_binds
#print axioms verified_next_committee_branch_binds
#print axioms branch_constants
#print axioms apply_monotone
#print axioms sequences_monotone
#print axioms run_monotone
#print axioms opt_ge_fin_from_bootstrap
#print axioms change_needs_two_thirds
#print axioms run_change_needs_two_thirds
#print axioms rotate_only_to_next
#print axioms rotation_consumes_next
#print axioms next_committee_period
#print axioms bootstrap_sound
#print axioms bootstrap_committee_branch_binds
#print axioms quirk_container_root_breaks_C12
end Props.C12
