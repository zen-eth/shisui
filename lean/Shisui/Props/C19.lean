import Shisui.Versions
import Shisui.Framing
/-! # C19 — Peers settle on the highest common protocol version and frame data accordingly

Model: `Vs.biggestCommon` (`findBiggestSameNumber`), `Vs.getOrStore`/`Vs.run` (`getOrStoreHighestVersion` with the
versions cache as state; `quirk = true` stores the value even when the computation failed — what the code does, pinned by
`TestGetOrStoreHighestVersion`). Theorems are about `quirk = false`; the driver checks the code against `quirk = true`. -/
namespace Props.C19
open Vs

/-- "each side computes the highest version present in both …, an error … when there is no common version" -/
theorem highest_common (a b : List Nat) :
    (∀ m, biggestCommon a b = some m → m ∈ a ∧ m ∈ b ∧ ∀ v, v ∈ a → v ∈ b → v ≤ m) ∧
    (biggestCommon a b = none → ∀ v, v ∈ a → v ∉ b) :=
  ⟨fun _ => biggestCommon_eq_some_iff.mp, biggestCommon_eq_none_iff.mp⟩

/-- "For any two nodes advertising version sets, each side computes" the same version -/
theorem symmetric (a b : List Nat) (m : Nat) (h : biggestCommon a b = some m) : biggestCommon b a = some m :=
  biggestCommon_comm a b ▸ h

/-- "its own first-listed (base) version when the peer advertises none" -/
theorem none_advertised_base (own : List Nat) :
    (getOrStore false own none none).2 = .ok (own.headD 0) := rfl

/-- "an error and no transfer when there is no common version" — for EVERY call history (ideal model) -/
theorem no_common_always_error (own pv : List Nat) (h : biggestCommon own pv = none) (n : Nat) :
    ∀ r ∈ run false own (some pv) n none, r = .err := Vs.no_common_always_error own pv h n

/-- once a version was computed every later call returns the same one (the cache is consistent) -/
theorem cached_is_stable (q : Bool) (own : List Nat) (peer : Option (List Nat)) (v : Nat) :
    getOrStore q own (some v) peer = (some v, .ok v) := rfl

/-- "and uses it for both the ACCEPT encoding and the uTP content framing": with the same version on both sides the
    uTP framing of a large FINDCONTENT transfer is inverted exactly -/
theorem framing_agrees (a b : List Nat) (m : Nat) (d : List Nat) (hd : d.length < 2 ^ 32)
    (h : biggestCommon a b = some m) :
    ∃ m', biggestCommon b a = some m' ∧ Fr.utpDec m' (Fr.utpEnc m d) = some d :=
  ⟨m, symmetric a b m h, Fr.utp_roundtrip m d hd⟩

/-- NEGATIVE result for the code as it is: no common version, the second call succeeds with version 0 (witness of the
    finding) -/
theorem cached_error_breaks_C19 :
    biggestCommon [0] [3] = none ∧ run true [0] (some [3]) 2 none = [.err, .ok 0] := by decide

example : biggestCommon [0, 1] [1, 2] = some 1 := by decide
example : biggestCommon [0, 1] [2] = none := by decide

#print axioms highest_common
#print axioms symmetric
#print axioms none_advertised_base
#print axioms no_common_always_error
#print axioms cached_is_stable
#print axioms framing_agrees
#print axioms cached_error_breaks_C19
end Props.C19
