import Shisui.LookupResult
/-! C10: the lookup of `portalwire/lookup.go` as a machine over `asked, seen, result, inflight`, run against every schedule
    (order in which outstanding queries complete) and every answer function. One invariant (`Inv`) for "≤ alpha in flight, nobody
    asked twice, never self, result = the closest seen" and one measure (`mu`) for termination. The result list is `Nd`;
    `Lk.insertSorted` and `Lk.push` are the machine's own copies of `Nd`'s, equal to them by `insertSorted_eq` and `push_eq`. -/
namespace Lk

def alpha := 3
def kRes := 16

structure LState where
  asked : List Nat
  seen : List Nat
  result : List Nat
  inflight : List Nat
deriving Repr

variable (d : Nat → Nat)

def insertSorted (n : Nat) : List Nat → List Nat
  | [] => [n]
  | x :: xs => if d x > d n then n :: x :: xs else x :: insertSorted n xs

def push (res : List Nat) (n : Nat) : List Nat := (insertSorted d n res).take kRes

/-- one iteration of the loop in `startQueries` -/
def ask (st : LState) (n : Nat) : LState :=
  if st.inflight.length < alpha ∧ n ∉ st.asked then
    { st with asked := n :: st.asked, inflight := n :: st.inflight }
  else st

def start (s : LState) : LState := s.result.foldl ask s

def see (st : LState) (n : Nat) : LState :=
  if n ∈ st.seen then st else { st with seen := n :: st.seen, result := push d st.result n }

/-- a reply from in-flight peer `p` carrying `nodes`, followed by `startQueries` -/
def reply (s : LState) (p : Nat) (nodes : List Nat) : LState :=
  let s1 := nodes.foldl (see d) s
  start { s1 with inflight := s1.inflight.erase p }

def init (me : Nat) (localClosest : List Nat) : LState :=
  start ((localClosest.foldl (see d) { asked := [me], seen := [], result := [], inflight := [] }))

/-- an event: in-flight peer `p` answers with `nodes` (a failing or silent peer answers `[]`) -/
abbrev Event := Nat × List Nat

/-- replay a schedule; an event for a peer that is not in flight cannot happen and is skipped -/
def run (s : LState) : List Event → LState
  | [] => s
  | (p, nodes) :: es => if p ∈ s.inflight then run (reply d s p nodes) es else run s es

/-- number of events of the schedule that really happen -/
def steps (s : LState) : List Event → Nat
  | [] => 0
  | (p, nodes) :: es => if p ∈ s.inflight then steps (reply d s p nodes) es + 1 else steps s es

/-- the lookup has ended when nothing is in flight after `startQueries` -/
def ended (s : LState) : Prop := s.inflight = []

/-- cancellation (`shutdown`): outstanding answers are drained and ignored; nothing new is asked -/
def drain (s : LState) : List Nat → LState
  | [] => s
  | p :: ps => drain { s with inflight := s.inflight.erase p } ps

theorem insertSorted_eq (n : Nat) (l : List Nat) : insertSorted d n l = Nd.insertSorted d n l := by
  induction l with
  | nil => rfl
  | cons x xs ih => simp only [insertSorted, Nd.insertSorted, ih]

theorem push_eq (res : List Nat) (n : Nat) : push d res n = Nd.push d kRes res n := by
  rw [push, Nd.push, insertSorted_eq]

theorem ask_result (st : LState) (n : Nat) : (ask st n).result = st.result := by
  unfold ask; split <;> rfl

theorem start_result (s : LState) : (start s).result = s.result :=
  List.foldlRecOn s.result ask (motive := fun t => t.result = s.result) rfl fun t ht n _ => (ask_result t n).trans ht

theorem see_keeps (st : LState) (n : Nat) : (see d st n).asked = st.asked ∧ (see d st n).inflight = st.inflight := by
  unfold see; split <;> exact ⟨rfl, rfl⟩

theorem foldl_see_keeps (l : List Nat) (st : LState) :
    (l.foldl (see d) st).asked = st.asked ∧ (l.foldl (see d) st).inflight = st.inflight :=
  List.foldlRecOn l (see d) (motive := fun t => t.asked = st.asked ∧ t.inflight = st.inflight) ⟨rfl, rfl⟩
    fun t ht n _ => ⟨(see_keeps d t n).1.trans ht.1, (see_keeps d t n).2.trans ht.2⟩

theorem see_result_sub (st : LState) (n m : Nat) (h : m ∈ (see d st n).result) : m = n ∨ m ∈ st.result := by
  unfold see at h
  split at h
  · exact Or.inr h
  · rw [push_eq] at h; exact (Nd.mem_insertSorted d n m st.result).mp (List.mem_of_mem_take h)

theorem foldl_see_result_sub (l : List Nat) (st : LState) (m : Nat) (h : m ∈ (l.foldl (see d) st).result) :
    m ∈ l ∨ m ∈ st.result :=
  List.foldlRecOn l (see d) (motive := fun t => m ∈ t.result → m ∈ l ∨ m ∈ st.result) Or.inr
    (fun t ht n hn hm => (see_result_sub d t n m hm).elim (fun e => Or.inl (e ▸ hn)) ht) h

theorem reply_result_sub (s : LState) (p : Nat) (nodes : List Nat) (m : Nat) (h : m ∈ (reply d s p nodes).result) :
    m ∈ nodes ∨ m ∈ s.result := by
  rw [reply, start_result] at h
  exact foldl_see_result_sub d nodes s m h

theorem init_result_sub (me : Nat) (localClosest : List Nat) (m : Nat) (h : m ∈ (init d me localClosest).result) :
    m ∈ localClosest := by
  rw [init, start_result] at h
  exact (foldl_see_result_sub d localClosest _ m h).elim id (fun h => nomatch h)

/-- `chain`: the peers in flight were asked, after self, in that order. With `askedND` it gives that they are distinct and
    that self is not among them (`Inv.chain_spec`). `res`: the result is the bounded sorted list of everything seen, in order of
    first sight. -/
structure Inv (me : Nat) (s : LState) : Prop where
  infl : s.inflight.length ≤ alpha
  askedND : s.asked.Nodup
  chain : (s.inflight ++ [me]).Sublist s.asked
  res : s.result = Nd.result d kRes s.seen.reverse

theorem Inv.chain_spec {d : Nat → Nat} {me : Nat} {s : LState} (h : Inv d me s) :
    s.inflight.Nodup ∧ (∀ n ∈ s.inflight, n ∈ s.asked) ∧ me ∉ s.inflight := by
  have nd := List.nodup_append.mp (h.askedND.sublist h.chain)
  exact ⟨nd.1, fun n hn => h.chain.subset (List.mem_append_left _ hn),
    fun hm => nd.2.2 me hm me (List.mem_singleton_self me) rfl⟩

theorem ask_inv {me : Nat} {st : LState} (h : Inv d me st) (n : Nat) : Inv d me (ask st n) := by
  unfold ask
  split
  · next hc =>
    exact { infl := hc.1, askedND := List.nodup_cons.mpr ⟨hc.2, h.askedND⟩, chain := h.chain.cons_cons n, res := h.res }
  · exact h

theorem start_inv {me : Nat} {s : LState} (h : Inv d me s) : Inv d me (start s) :=
  List.foldlRecOn s.result ask h fun _ ht n _ => ask_inv d ht n

theorem see_inv {me : Nat} {st : LState} (h : Inv d me st) (n : Nat) : Inv d me (see d st n) := by
  unfold see
  split
  · exact h
  · refine { h with res := ?_ }
    show push d st.result n = Nd.result d kRes (n :: st.seen).reverse
    rw [push_eq, h.res, Nd.result, Nd.result, List.reverse_cons, List.foldl_append]; rfl

theorem foldl_see_inv {me : Nat} {st : LState} (h : Inv d me st) (l : List Nat) : Inv d me (l.foldl (see d) st) :=
  List.foldlRecOn l (see d) h fun _ ht n _ => see_inv d ht n

theorem reply_inv {me : Nat} {s : LState} (h : Inv d me s) (p : Nat) (nodes : List Nat) : Inv d me (reply d s p nodes) := by
  have h1 := foldl_see_inv d h nodes
  exact start_inv d {
    infl := Nat.le_trans (List.length_erase_le ..) h1.infl
    askedND := h1.askedND
    chain := (List.erase_sublist.append_right [me]).trans h1.chain
    res := h1.res }

theorem init_inv (me : Nat) (localClosest : List Nat) : Inv d me (init d me localClosest) := by
  refine start_inv d (foldl_see_inv d ?_ localClosest)
  exact {
    infl := Nat.zero_le _
    askedND := List.nodup_cons.mpr ⟨List.not_mem_nil, List.nodup_nil⟩
    chain := List.Sublist.refl _
    res := rfl }

theorem run_inv (me : Nat) (es : List Event) : ∀ s, Inv d me s → Inv d me (run d s es) := by
  induction es with
  | nil => exact fun _ h => h
  | cons e es ih =>
    intro s h
    simp only [run]
    split
    · exact ih _ (reply_inv d h e.1 e.2)
    · exact ih _ h

def unasked (U : List Nat) (s : LState) : Nat := (U.filter (fun n => n ∉ s.asked)).length

/-- asking a peer of `U` takes one from the unasked and puts one in flight, a reply takes one from those in flight: with the
    unasked counted twice every reply lowers `mu`, however many peers `startQueries` asks after it -/
def mu (U : List Nat) (s : LState) : Nat := 2 * unasked U s + s.inflight.length

theorem unasked_lt (U : List Nat) (st : LState) (n : Nat) (hn : n ∈ U) (hna : n ∉ st.asked) (infl : List Nat) :
    unasked U { st with asked := n :: st.asked, inflight := infl } < unasked U st := by
  have : U.filter (fun m => m ∉ n :: st.asked) = (U.filter (fun m => m ∉ st.asked)).filter (fun m => m ≠ n) := by
    rw [List.filter_filter]; exact List.filter_congr fun m _ => by simp
  unfold unasked
  rw [this]
  exact List.length_filter_lt_length_iff_exists.mpr ⟨n, List.mem_filter.mpr ⟨hn, decide_eq_true hna⟩, by simp⟩

theorem ask_mu (U : List Nat) (st : LState) (n : Nat) (hn : n ∈ U) : mu U (ask st n) ≤ mu U st := by
  unfold ask
  split
  · next hc =>
    -- one peer fewer unasked, counted twice, pays for the one more in flight
    have h := Nat.mul_le_mul_left 2 (unasked_lt U st n hn hc.2 (n :: st.inflight))
    show 2 * unasked U _ + st.inflight.length + 1 ≤ 2 * unasked U st + st.inflight.length
    rw [Nat.add_right_comm]
    exact Nat.add_le_add_right (Nat.le_of_succ_le h) _
  · exact Nat.le_refl _

/-- `startQueries` asks peers of the result only, hence `hres` -/
theorem start_mu (U : List Nat) (s : LState) (hres : ∀ n ∈ s.result, n ∈ U) : mu U (start s) ≤ mu U s :=
  List.foldlRecOn s.result ask (Nat.le_refl _) fun t ht n hn => Nat.le_trans (ask_mu U t n (hres n hn)) ht

theorem reply_mu (U : List Nat) (s : LState) (p : Nat) (nodes : List Nat)
    (hp : p ∈ s.inflight) (hres : ∀ n ∈ s.result, n ∈ U) (hnodes : ∀ n ∈ nodes, n ∈ U) :
    mu U (reply d s p nodes) < mu U s := by
  -- the answer changes neither `asked` nor `inflight`, erasing `p` takes one off the measure, `startQueries` adds nothing
  refine Nat.lt_of_le_of_lt (start_mu U _ fun n hn => (foldl_see_result_sub d nodes s n hn).elim (hnodes n) (hres n)) ?_
  have hk := foldl_see_keeps d nodes s
  simp only [mu, unasked, hk.1, hk.2, List.length_erase_of_mem hp]
  exact Nat.add_lt_add_left (Nat.sub_one_lt (Nat.ne_of_gt (List.length_pos_of_mem hp))) _

theorem mu_le (U : List Nat) (s : LState) (h : s.inflight.length ≤ alpha) : mu U s ≤ 2 * U.length + alpha :=
  Nat.add_le_add (Nat.mul_le_mul_left 2 (List.length_filter_le ..)) h

/-- `U` may list a peer twice -/
theorem steps_le_mu (U : List Nat) (es : List Event) (hes : ∀ e ∈ es, ∀ n ∈ e.2, n ∈ U) :
    ∀ s, (∀ n ∈ s.result, n ∈ U) → steps d s es ≤ mu U s := by
  induction es with
  | nil => exact fun _ _ => Nat.zero_le _
  | cons e es ih =>
    intro s hres
    have hnodes := hes e (List.mem_cons_self ..)
    have ih := ih fun e he => hes e (List.mem_cons_of_mem _ he)
    simp only [steps]
    split
    · next hp =>
      exact Nat.lt_of_le_of_lt (ih _ fun n hn => (reply_result_sub d s e.1 e.2 n hn).elim (hnodes n) (hres n))
        (reply_mu d U s e.1 e.2 hp hres hnodes)
    · exact ih s hres

/-- C10 termination: over a finite universe `U` of peers the replies of any schedule, in whatever order outstanding queries
    complete, number at most `mu U s`. `mu_le` with `Inv.infl` bounds that by `2·|U| + alpha`; the two are composed in
    `Props.C10.terminates`. `hU` is not needed: `steps_le_mu`. -/
theorem steps_bounded (U : List Nat) (hU : U.Nodup) (es : List Event) (hes : ∀ e ∈ es, ∀ n ∈ e.2, n ∈ U) :
    ∀ s, (∀ n ∈ s.result, n ∈ U) → steps d s es ≤ mu U s := steps_le_mu d U es hes

#print axioms reply_inv
#print axioms reply_mu
#print axioms steps_bounded
#print axioms run_inv

end Lk
