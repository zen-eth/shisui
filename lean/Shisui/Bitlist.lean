/-! C14/C09: SSZ bit lists as the v0 ACCEPT message carries them: go-bitfield's `NewBitlist`/`SetBitAt` (`encode`)
    and `Len`/`BitIndices` (`decode`). The receiving side's check, fastssz `ValidateBitlist`, is `Wire.validBits`
    (Ssz/Wire.lean); `Wire.validBits_image` (Ssz/WireField.lean) says when it accepts an `encode`d list. -/
namespace Bl

/-- little-endian bits of a byte -/
def unpackByte (b : Nat) : List Bool := (List.range 8).map (fun i => (b / 2 ^ i) % 2 = 1)

def packBits : List Bool → Nat
  | [] => 0
  | b :: bs => (if b then 1 else 0) + 2 * packBits bs

/-- pack `k` bytes from a bit string -/
def packBytesN : Nat → List Bool → List Nat
  | 0, _ => []
  | k + 1, l => packBits (l.take 8) :: packBytesN k (l.drop 8)

def packBytes (l : List Bool) : List Nat := packBytesN (l.length / 8) l

def unpackBytes (bs : List Nat) : List Bool := bs.flatMap unpackByte

/-- encode verdict bits as an SSZ bitlist: the bits, the sentinel, zero padding to a byte boundary -/
def encode (bits : List Bool) : List Nat :=
  let l := bits ++ [true]
  packBytes (l ++ List.replicate ((8 - l.length % 8) % 8) false)

/-- drop trailing `false`s -/
def stripFalse (l : List Bool) : List Bool := (l.reverse.dropWhile (· = false)).reverse

/-- decode: all bits, strip padding, the last remaining bit is the sentinel.
    `none` when there is no sentinel (empty input or last byte zero — what `ValidateBitlist` rejects
    is modelled by the caller together with the length limit). -/
def decode (bs : List Nat) : Option (List Bool) :=
  match (stripFalse (unpackBytes bs)).reverse with
  | [] => none
  | _ :: rest => some rest.reverse

theorem testBit_packBits (l : List Bool) (i : Nat) : (packBits l).testBit i = l.getD i false := by
  induction l generalizing i with
  | nil => simp [packBits]
  | cons b l ih =>
    cases i with
    | zero => rw [Nat.testBit_zero, packBits, Nat.add_mul_mod_self_left]; cases b <;> rfl
    | succ i =>
      rw [Nat.testBit_succ, packBits, Nat.add_mul_div_left _ _ (by decide : 0 < 2),
        show (if b = true then 1 else 0) / 2 = 0 by cases b <;> rfl, Nat.zero_add, ih]
      rfl

theorem unpackByte_packBits (l : List Bool) (h : l.length = 8) : unpackByte (packBits l) = l := by
  apply List.ext_getElem
  · simp [unpackByte, h]
  · intro i h1 h2
    simp [unpackByte, ← Nat.testBit_eq_decide_div_mod_eq, testBit_packBits, h2]

theorem packBits_lt (l : List Bool) : packBits l < 2 ^ l.length := by
  induction l with
  | nil => exact Nat.one_pos
  | cons b bs ih =>
    have hb : (if b = true then 1 else 0) ≤ 1 := by cases b <;> decide
    rw [packBits, List.length_cons, Nat.pow_succ]
    omega

theorem packBits_append (l l' : List Bool) : packBits (l ++ l') = packBits l + 2 ^ l.length * packBits l' := by
  induction l with
  | nil => simp [packBits]
  | cons b l ih =>
    rw [List.cons_append, packBits, packBits, ih, List.length_cons, Nat.pow_succ, Nat.mul_add, Nat.add_assoc,
      Nat.mul_comm _ 2, Nat.mul_assoc]

theorem packBits_replicate_false (n : Nat) : packBits (List.replicate n false) = 0 := by
  induction n with
  | zero => rfl
  | succ n ih => simp [List.replicate_succ, packBits, ih]

theorem packBytesN_length (k : Nat) (l : List Bool) : (packBytesN k l).length = k := by
  induction k generalizing l with
  | zero => rfl
  | succ k ih => simp [packBytesN, ih]

theorem packBytes_append (c l : List Bool) (hc : c.length = 8) : packBytes (c ++ l) = packBits c :: packBytes l := by
  rw [packBytes, List.length_append, hc, Nat.add_div_left _ (by decide : 0 < 8), packBytesN, List.take_left' hc,
    List.drop_left' hc, packBytes]

theorem unpack_packBytesN (k : Nat) (l : List Bool) (h : l.length = 8 * k) : unpackBytes (packBytesN k l) = l := by
  induction k generalizing l with
  | zero => exact (List.eq_nil_of_length_eq_zero h).symm
  | succ k ih =>
    rw [Nat.mul_succ] at h
    have ih := ih (l.drop 8) (by rw [List.length_drop, h, Nat.add_sub_cancel])
    have ht : (l.take 8).length = 8 := List.length_take_of_le (h ▸ Nat.le_add_left ..)
    rw [unpackBytes] at ih ⊢
    rw [packBytesN, List.flatMap_cons, ih, unpackByte_packBits _ ht, List.take_append_drop]

theorem unpack_packBytes (l : List Bool) (k : Nat) (h : l.length = 8 * k) : unpackBytes (packBytes l) = l := by
  rw [packBytes, h, Nat.mul_div_cancel_left k (by decide : 0 < 8)]
  exact unpack_packBytesN k l h

/-- The only arithmetic about the padding: bits, sentinel and padding fill exactly `n / 8 + 1` bytes. Everything below
    about `encode` is rewriting with this. -/
theorem padded_length (bits : List Bool) :
    (bits ++ [true] ++ List.replicate ((8 - (bits ++ [true]).length % 8) % 8) false).length =
      8 * (bits.length / 8 + 1) := by
  simp only [List.length_append, List.length_replicate, List.length_singleton]
  omega

theorem encode_eq (bits : List Bool) : encode bits = packBytesN (bits.length / 8 + 1)
    (bits ++ [true] ++ List.replicate ((8 - (bits ++ [true]).length % 8) % 8) false) := by
  rw [encode, packBytes, padded_length, Nat.mul_div_cancel_left _ (by decide : 0 < 8)]

theorem length_encode (bits : List Bool) : (encode bits).length = bits.length / 8 + 1 := by
  rw [encode_eq, packBytesN_length]

theorem encode_ne_nil (bits : List Bool) : encode bits ≠ [] :=
  List.ne_nil_of_length_pos (by rw [length_encode]; exact Nat.succ_pos _)

theorem encode_short (bits : List Bool) (h : bits.length < 8) : encode bits = [packBits (bits ++ [true])] := by
  have hl := padded_length bits
  rw [Nat.div_eq_of_lt h] at hl
  rw [encode_eq, Nat.div_eq_of_lt h, packBytesN, packBytesN, List.take_of_length_le (Nat.le_of_eq hl),
    packBits_append, packBits_replicate_false, Nat.mul_zero, Nat.add_zero]

theorem encode_chunk (c rest : List Bool) (hc : c.length = 8) : encode (c ++ rest) = packBits c :: encode rest := by
  have hl : (c ++ rest ++ [true]).length % 8 = (rest ++ [true]).length % 8 := by
    rw [List.append_assoc, List.length_append, hc, Nat.add_mod_left]
  rw [encode, encode, hl, List.append_assoc c, List.append_assoc c, packBytes_append _ _ hc]

theorem stripFalse_sentinel (bits : List Bool) (n : Nat) :
    stripFalse (bits ++ [true] ++ List.replicate n false) = bits ++ [true] := by
  rw [stripFalse, List.reverse_append, List.reverse_replicate,
    List.dropWhile_append_of_pos (by simp), List.reverse_append, List.reverse_singleton, List.singleton_append,
    List.dropWhile_cons_of_neg (by simp), List.reverse_cons, List.reverse_reverse]

/-- C14/C09: the verdict bit list survives the wire, for every number of keys -/
theorem decode_encode (bits : List Bool) : decode (encode bits) = some bits := by
  rw [decode, encode_eq, unpack_packBytesN _ _ (padded_length bits), stripFalse_sentinel]
  simp

/-- if the padded bit string has `8 * k` bits, `k` is one more than ⌊n/8⌋, the number of bytes `NewBitlist` allocates (that it
    has so many bits, and `encode` so many bytes: `padded_length`, `length_encode`) -/
theorem encode_length (bits : List Bool) : ∀ k, (bits ++ [true] ++ List.replicate ((8 - (bits ++ [true]).length % 8) % 8) false).length = 8 * k →
    k = bits.length / 8 + 1 := by
  intro k hk
  rw [padded_length] at hk
  exact (Nat.eq_of_mul_eq_mul_left (by decide : 0 < 8) hk).symm

#print axioms decode_encode
end Bl
