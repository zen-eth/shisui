/-! `state/trie/utils.go: TraverseTrieNode` of the tree as found: one `[]byte` for a child reference and for a leaf
    value, the accesses Go did not check as `panic`. `traverse` itself is not run against the Go code: Driver/C13
    runs `traverseT` (`Tagged.lean`) and Driver/C01 runs `Dp.traverseQ` (`DispatchVal.lean`), and `traverse` is either
    of them with the extra information forgotten (`traverseT_erase`, `Props.C01.traverse_asIs_is_Tr`). Beside it an
    inductive specification of "walking the node along the path reaches this reference" (their equivalence is
    `traverse_iff` in `Tagged.lean`), and `Res`, the result type of the validators built on the traversal. -/
namespace Tr

inductive Node where
  | full (children : List Node)          -- 17 slots in Go; slot 16 is the value slot
  | short (key : List Nat) (val : Node)  -- hex key, last nibble 16 = terminator (leaf)
  | hash (h : List Nat)
  | value (v : List Nat)
  | empty                                -- Go nil child

inductive Outcome where
  | ok (ref : List Nat) (rest : List Nat)
  | err
  | panic
deriving DecidableEq, Repr

/-- the `for index, key := range v.Key { if path[index] != key ...}` loop -/
def matchKey : List Nat → List Nat → Outcome
  | [], path => .ok [] path
  | _ :: _, [] => .panic                      -- path[index] out of range
  | k :: ks, p :: ps => if p ≠ k then .err else matchKey ks ps

theorem matchKey_ok (key path : List Nat) (r rest : List Nat) (h : matchKey key path = .ok r rest) :
    path = key ++ rest ∧ r = [] := by
  fun_induction matchKey key path with
  | case1 path => cases h; exact ⟨rfl, rfl⟩
  | case2 => cases h
  | case3 => cases h
  | case4 k ks p ps hpk ih => rw [Decidable.not_not.mp hpk, (ih h).1]; exact ⟨rfl, (ih h).2⟩

theorem matchKey_append (key rest : List Nat) : matchKey key (key ++ rest) = .ok [] rest := by
  induction key with
  | nil => rfl
  | cons k ks ih => simp [matchKey, ih]

def traverse (n : Node) (path : List Nat) : Outcome :=
  match n, path with
  | .full _, [] => .err
  | .full cs, p :: ps =>
    match cs[p]? with
    | none => .panic
    | some c => traverse c ps
  | .short key val, path =>
    match hg : key.getLast? with
    | none => .panic                                   -- v.Key[length-1] with length 0
    | some last =>
      if last = 16 then
        if key.dropLast = [] then .err
        else if key.dropLast ≠ path then .err
        else match val with
          | .value v => .ok v path
          | _ => .panic                                -- (v.Val).(valueNode)
      else
        match hm : matchKey key path with
        | .ok _ rest => traverse val rest
        | .err => .err
        | .panic => .panic
  | .hash h, path => .ok h path
  | .value _, _ => .err
  | .empty, _ => .err
termination_by path.length
decreasing_by
  · simp
  · have := matchKey_ok key path _ rest hm
    have hk : key ≠ [] := by
      intro h; subst h; simp at hg
    have : 0 < key.length := List.length_pos_iff.mpr hk
    rw [‹path = key ++ rest ∧ _›.1]
    simp; omega

/-- `traverse` on a short node, without the equations `hg`, `hm` that only its termination proof reads -/
theorem traverse_short (key : List Nat) (val : Node) (path : List Nat) :
    traverse (.short key val) path =
      match key.getLast? with
      | none => .panic
      | some last =>
        if last = 16 then
          if key.dropLast = [] then .err
          else if key.dropLast ≠ path then .err
          else match val with
            | .value v => .ok v path
            | _ => .panic
        else
          match matchKey key path with
          | .ok _ rest => traverse val rest
          | .err => .err
          | .panic => .panic := by
  rw [traverse.eq_def]
  dsimp only
  cases key.getLast? with
  | none => rfl
  | some last => cases matchKey key path <;> rfl

/-- specification: walking `n` along `path` ends at reference `ref` with `rest` of the path unconsumed -/
inductive Reach : Node → List Nat → List Nat → List Nat → Prop where
  | hash (h path) : Reach (.hash h) path h path
  | full (cs p ps c ref rest) : cs[p]? = some c → Reach c ps ref rest → Reach (.full cs) (p :: ps) ref rest
  | ext (key val rest' ref rest) : key ≠ [] → key.getLast? ≠ some 16 →
      Reach val rest' ref rest → Reach (.short key val) (key ++ rest') ref rest
  | leaf (pre v) : pre ≠ [] → Reach (.short (pre ++ [16]) (.value v)) pre v pre

/-- what a Go function `(α, error)` can do: return a value, return an error, or die of a run-time panic -/
inductive Res (α : Type) where
  | ok (a : α)
  | err
  | panic

theorem res_err_of {α : Type} (r : Res α) (hp : r ≠ .panic) (ho : ∀ a, r ≠ .ok a) : r = .err := by
  cases r with
  | ok a => exact absurd rfl (ho a)
  | err => rfl
  | panic => exact absurd rfl hp

/-- the checks of the validators are guards `if ¬c then .err else r`, which `simp` writes `if c then r else .err` -/
@[simp] theorem Res.guard_eq_ok {α : Type} {c : Prop} [Decidable c] {r : Res α} {a : α} :
    (if c then r else .err) = .ok a ↔ c ∧ r = .ok a := by
  split <;> simp [*]

theorem ite_ne {α : Type} {c : Prop} [Decidable c] {a b x : α} (ha : a ≠ x) (hb : b ≠ x) :
    (if c then a else b) ≠ x := by
  split <;> assumption

end Tr
