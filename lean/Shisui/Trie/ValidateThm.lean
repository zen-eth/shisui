import Shisui.Trie.Validate
/-! Theorems about the state-validation model `Spv` (any hash function, any node/account decoder):
    acceptance ⇔ hash-linked chain specification, what `Put` stores, the rejection clauses, absence of panics in
    the ideal model; and the one fact about the node decoder of `Rlp.lean` the rejection clauses need
    (`decodeNodeF_top`). Every function of `Validate.lean` that returns a `Res` has its `_no_panic`, and each but the
    inner loop `chainGo` its `_iff` (when it returns a value); `chainGo` is specified through `validateTrieProof_iff`. -/
namespace Spv
open Tr

/-- an admissible link: the node decodes, and walking it along what is left of the path reaches the child reference
    `r` with `rest` left over (with the `leafAsRef` switch also: reaches a leaf whose value is `r`) -/
def LinkRel (E : Env) (q : Quirks) (e : Bytes) (path : Path) (r : Bytes) (rest : Path) : Prop :=
  ∃ n, E.decodeN e = some n ∧ (ReachT n path .ref r rest ∨ (q.leafAsRef = true ∧ ReachT n path .val r rest))

theorem link_iff (E : Env) (q : Quirks) (e : Bytes) (path : Path) (r : Bytes) (rest : Path) :
    link E q e path = .ok (r, rest) ↔ LinkRel E q e path r rest := by
  -- with walks read as results of `traverseT`, both sides are decided by the decoder's and the traversal's result
  unfold link LinkRel
  simp only [← traverseT_iff]
  cases E.decodeN e with
  | none => simp
  | some n =>
    simp only [Option.some.injEq, exists_eq_left']
    rcases traverseT n path with ⟨_ | _, b, p⟩ | _ | _
    · simp   -- a child reference: the link, with or without the switch
    · simp   -- a leaf value: a link exactly under `leafAsRef`
    · simp   -- an error: no link
    · simp   -- a panic, or the error in its place: no link

theorem link_no_panic (E : Env) (q : Quirks) (hq : q.panics = false) (e : Bytes) (path : Path) :
    link E q e path ≠ .panic := by
  fun_cases link E q e path
  case case6 h => cases hq.symm.trans h   -- the leaf behind the switch
  all_goals nofun

theorem chainGo_no_panic (E : Env) (q : Quirks) (hq : q.panics = false) (node : Bytes) (path : Path)
    (proof : List Bytes) : chainGo E q node path proof ≠ .panic := by
  fun_induction chainGo E q node path proof
  case case3 ih => exact ih                                     -- the next node hashes to the link: on with the loop
  case case5 h => exact absurd h (link_no_panic E q hq _ _)     -- the link's panic handed on
  all_goals nofun

theorem chainGo_append (E : Env) (q : Quirks) (node : Bytes) (path : Path) (xs ys : List Bytes) :
    chainGo E q node path (xs ++ ys) =
      match chainGo E q node path xs with
      | .ok lp => chainGo E q lp.1 lp.2 ys
      | .err => .err
      | .panic => .panic := by
  induction xs generalizing node path with
  | nil => rfl
  | cons x xs ih =>
    simp only [List.cons_append, chainGo]
    cases link E q node path with
    | ok rp =>
      dsimp only
      split
      · rfl
      · exact ih x rp.2
    | err => rfl
    | panic => rfl

/-- hash-linked chain: the first node hashes to `root`; each following node hashes to what the previous one refers to
    along the path; `last` is the final node and `rest` what is left of the path there -/
inductive Chain (E : Env) (q : Quirks) : Bytes → Path → List Bytes → Bytes → Path → Prop where
  | single (root path e) : E.hashOf e = root → Chain E q root path [e] e path
  | cons (root path e r p e' more last rest) :
      E.hashOf e = root → LinkRel E q e path r p →
      Chain E q r p (e' :: more) last rest → Chain E q root path (e :: e' :: more) last rest

theorem validateTrieProof_single (E : Env) (q : Quirks) (root : Bytes) (path : Path) (e : Bytes) :
    validateTrieProof E q root path [e] = if E.hashOf e ≠ root then .err else .ok (e, path) := rfl

/-- as `Tr.validateTrieProof_cons` (Chain.lean), in the shape of `Chain.cons` -/
theorem validateTrieProof_cons (E : Env) (q : Quirks) (root : Bytes) (path : Path) (e e' : Bytes) (more : List Bytes) :
    validateTrieProof E q root path (e :: e' :: more) =
      if E.hashOf e ≠ root then .err else
        match link E q e path with
        | .ok rp => validateTrieProof E q rp.1 rp.2 (e' :: more)
        | .err => .err
        | .panic => .panic := rfl

theorem validateTrieProof_iff (E : Env) (q : Quirks) (root : Bytes) (path : Path) (proof : List Bytes) (last : Bytes)
    (rest : Path) :
    validateTrieProof E q root path proof = .ok (last, rest) ↔ Chain E q root path proof last rest := by
  constructor
  · intro h
    cases proof with
    | nil => cases h
    | cons e more =>
      induction more generalizing e root path with
      | nil =>
        simp only [validateTrieProof_single, ite_not, Res.guard_eq_ok, Res.ok.injEq, Prod.mk.injEq] at h
        obtain ⟨hr, rfl, rfl⟩ := h
        exact .single _ _ _ hr
      | cons e' more ih =>
        simp only [validateTrieProof_cons, ite_not, Res.guard_eq_ok] at h
        cases hl : link E q e path with
        | ok rp =>
          rw [hl] at h
          exact .cons _ _ _ _ _ _ _ _ _ h.1 ((link_iff ..).mp hl) (ih _ _ _ h.2)
        | err => rw [hl] at h; cases h.2
        | panic => rw [hl] at h; cases h.2
  · intro h
    induction h with
    | single root path e he => simp [validateTrieProof_single, he]
    | cons root path e r p e' more last rest he hl _ ih =>
      simp [validateTrieProof_cons, he, (link_iff ..).mpr hl, ih]

theorem chain_last {E : Env} {q : Quirks} {root : Bytes} {path : Path} {proof : List Bytes} {last : Bytes} {rest : Path}
    (h : Chain E q root path proof last rest) : proof.getLast? = some last := by
  induction h with
  | single root path e _ => rfl
  | cons root path e r p e' more last rest _ _ _ ih => simpa using ih

theorem validateTrieProof_no_panic (E : Env) (q : Quirks) (hq : q.panics = false) (root : Bytes) (path : Path)
    (proof : List Bytes) : validateTrieProof E q root path proof ≠ .panic := by
  fun_cases validateTrieProof E q root path proof
  case case3 => exact chainGo_no_panic E q hq _ _ _   -- the first node hashes to the root: the loop
  all_goals nofun

/-- what the rejection clauses rest on: after an accepted proof the loop goes on from its last node with the path left there -/
theorem validateTrieProof_append (E : Env) (q : Quirks) (root : Bytes) (path : Path) (xs ys : List Bytes)
    (lp : Bytes × Path) (h : validateTrieProof E q root path xs = .ok lp) :
    validateTrieProof E q root path (xs ++ ys) = chainGo E q lp.1 lp.2 ys := by
  cases xs with
  | nil => cases h
  | cons first more =>
    simp only [validateTrieProof, ite_not, Res.guard_eq_ok] at h
    simp [validateTrieProof, h.1, chainGo_append, h.2]

theorem validateNode_iff (E : Env) (q : Quirks) (root nodeHash : Bytes) (path : Path) (proof : List Bytes) (last : Bytes) :
    validateNode E q root nodeHash path proof = .ok last ↔
      Chain E q root path proof last [] ∧ E.hashOf last = nodeHash := by
  rw [← validateTrieProof_iff, validateNode]
  cases validateTrieProof E q root path proof with
  | err => exact ⟨nofun, fun h => nomatch h.1⟩
  | panic => exact ⟨nofun, fun h => nomatch h.1⟩
  | ok lp =>
    -- the two guards of `validateNode`, and `lp = (last, [])` read componentwise
    simp only [ite_not, Res.guard_eq_ok, Res.ok.injEq, Prod.ext_iff]
    show lp.2 = [] ∧ E.hashOf lp.1 = nodeHash ∧ lp.1 = last ↔ (lp.1 = last ∧ lp.2 = []) ∧ E.hashOf last = nodeHash
    constructor
    · rintro ⟨hp, hh, rfl⟩; exact ⟨⟨rfl, hp⟩, hh⟩
    · rintro ⟨⟨rfl, hp⟩, hh⟩; exact ⟨hp, hh, rfl⟩

theorem validateNode_no_panic (E : Env) (q : Quirks) (hq : q.panics = false) (root nodeHash : Bytes) (path : Path)
    (proof : List Bytes) : validateNode E q root nodeHash path proof ≠ .panic := by
  fun_cases validateNode E q root nodeHash path proof
  case case5 h => exact absurd h (validateTrieProof_no_panic E q hq root path proof)   -- the proof check's panic handed on
  all_goals nofun

/-- the account bytes under the last node of an account proof: the value of the leaf whose key is exactly what is left
    of the address path (with the `leafAsRef` switch also: any child reference reached) -/
def AcctRel (E : Env) (q : Quirks) (e : Bytes) (path : Path) (b : Bytes) : Prop :=
  ∃ n, E.decodeN e = some n ∧
    ((∃ rest, ReachT n path .val b rest) ∨ (q.leafAsRef = true ∧ ∃ rest, ReachT n path .ref b rest))

theorem accountBytes_iff (E : Env) (q : Quirks) (e : Bytes) (path : Path) (b : Bytes) :
    accountBytes E q e path = .ok b ↔ AcctRel E q e path b := by
  -- as `link_iff`, with the two kinds of hit in each other's place and the rest of the path dropped
  unfold accountBytes AcctRel
  simp only [← traverseT_iff]
  cases E.decodeN e with
  | none => simp
  | some n =>
    simp only [Option.some.injEq, exists_eq_left']
    rcases traverseT n path with ⟨_ | _, b, p⟩ | _ | _
    · simp   -- a child reference: the account bytes exactly under `leafAsRef`
    · simp   -- a leaf value: the account bytes, with or without the switch
    · simp   -- an error: none
    · simp   -- a panic, or the error in its place: none

theorem accountBytes_no_panic (E : Env) (q : Quirks) (hq : q.panics = false) (e : Bytes) (path : Path) :
    accountBytes E q e path ≠ .panic := by
  fun_cases accountBytes E q e path
  case case6 h => cases hq.symm.trans h   -- the leaf behind the switch
  all_goals nofun

def ProvenAccount (E : Env) (q : Quirks) (root addrHash : Bytes) (proof : List Bytes) (a : Account) : Prop :=
  ∃ last p b, Chain E q root (nibblesOf addrHash) proof last p ∧ AcctRel E q last p b ∧ E.decodeAcct b = some a

theorem validateAccountState_iff (E : Env) (q : Quirks) (root addrHash : Bytes) (proof : List Bytes) (a : Account) :
    validateAccountState E q root addrHash proof = .ok a ↔ ProvenAccount E q root addrHash proof a := by
  unfold validateAccountState ProvenAccount
  simp only [← validateTrieProof_iff, ← accountBytes_iff]
  constructor
  · intro h
    split at h
    next lp hv =>
      split at h
      next b hb =>
        split at h
        next a' ha => cases h; exact ⟨_, _, _, hv, hb, ha⟩
        all_goals cases h
      all_goals cases h
    all_goals cases h
  · rintro ⟨last, p, b, hv, hb, ha⟩
    simp only [hv, hb, ha]

theorem validateAccountState_no_panic (E : Env) (q : Quirks) (hq : q.panics = false) (root addrHash : Bytes)
    (proof : List Bytes) : validateAccountState E q root addrHash proof ≠ .panic := by
  fun_cases validateAccountState E q root addrHash proof
  case case4 lp _ h => exact absurd h (accountBytes_no_panic E q hq lp.1 lp.2)      -- the last node's panic handed on
  case case6 h => exact absurd h (validateTrieProof_no_panic E q hq root _ proof)   -- the proof check's panic handed on
  all_goals nofun

theorem unit_iff {α : Type} (r : Res α) : unit r = .ok () ↔ ∃ a, r = .ok a := by
  cases r <;> simp [unit]

theorem unit_no_panic {α : Type} (r : Res α) (h : r ≠ .panic) : unit r ≠ .panic := by
  cases r with
  | ok _ => nofun
  | err => nofun
  | panic => exact absurd rfl h

/-- acceptance for all three selectors at once: an item is accepted exactly when it decodes, its header is known, and under
    that header's state root an account-trie node (0x20) is the end of a chain along the key's path that uses the path
    up and hashes to the key's hash; a storage-trie node (0x21) is that under the storage root of the account proven
    for the key's address; bytecode (0x22, the only selector left once `decodes` holds) has the key's hash as the
    proven account's code hash -/
theorem validateContent_iff (E : Env) (q : Quirks) (oracle : Bytes → Option Bytes) (it : Item) :
    validateContent E q oracle it = .ok () ↔
      decodes it = true ∧ ∃ root, oracle it.blockHash = some root ∧
        if it.keyType = 0x20 then ∃ last, Chain E q root it.path it.proof last [] ∧ E.hashOf last = it.nodeHash
        else ∃ a, ProvenAccount E q root it.addrHash it.acctProof a ∧
          if it.keyType = 0x21 then
            ∃ last, Chain E q (fullRoot E a) it.path it.proof last [] ∧ E.hashOf last = it.nodeHash
          else fullCodeHash E a = it.nodeHash := by
  unfold validateContent
  cases decodes it with
  | false => simp
  | true =>
    cases oracle it.blockHash with
    | none => simp
    | some root =>
      simp only [Bool.not_true, Bool.false_eq_true, if_false, true_and, Option.some.injEq, exists_eq_left',
        ← validateAccountState_iff, ← validateNode_iff]
      by_cases h20 : it.keyType = 0x20
      · rw [if_pos h20, if_pos h20]; exact unit_iff _
      · rw [if_neg h20, if_neg h20]
        cases validateAccountState E q root it.addrHash it.acctProof with
        | err => simp
        | panic => simp
        | ok a =>
          simp only [Res.ok.injEq, exists_eq_left']
          by_cases h21 : it.keyType = 0x21
          · rw [if_pos h21, if_pos h21]; exact unit_iff _
          · rw [if_neg h21, if_neg h21]; simp

theorem validateContent_no_panic (E : Env) (q : Quirks) (hq : q.panics = false) (oracle : Bytes → Option Bytes)
    (it : Item) : validateContent E q oracle it ≠ .panic := by
  fun_cases validateContent E q oracle it
  -- 0x20 and 0x21 end in `validateNode`; under 0x21 and 0x22 a panic of the account proof is handed on
  case case3 | case4 => exact unit_no_panic _ (validateNode_no_panic E q hq _ _ _ _)
  case case6 h | case10 h => exact absurd h (validateAccountState_no_panic E q hq _ _ _)
  all_goals nofun

/-- what `Put` stores: the code under a bytecode key, the LAST proof node under a trie-node key, and either only if it
    hashes to the key's hash -/
theorem put_code_iff (E : Env) (q : Quirks) (it : Item) (s : Bytes) (ht : it.keyType = 0x22) :
    put E q it = .ok s ↔ decodes it = true ∧ E.hashOf it.code = it.nodeHash ∧ container it.code = s := by
  unfold put
  cases decodes it with
  | false => simp
  | true => simp [ht]

theorem put_node_iff (E : Env) (q : Quirks) (it : Item) (s : Bytes) (ht : it.keyType ≠ 0x22) :
    put E q it = .ok s ↔
      decodes it = true ∧ ∃ last, it.proof.getLast? = some last ∧ E.hashOf last = it.nodeHash ∧ container last = s := by
  unfold put
  cases decodes it with
  | false => simp
  | true =>
    cases it.proof.getLast? with
    | none => by_cases hq : q.putUnguarded = true <;> simp [ht, hq]
    | some last => simp [ht]

theorem put_no_panic (E : Env) (q : Quirks) (hq : q.putUnguarded = false) (it : Item) : put E q it ≠ .panic := by
  fun_cases put E q it
  case case4 h => cases hq.symm.trans h   -- the leaf behind the switch
  all_goals nofun

/-- node decoders return branch or short nodes, never a bare reference -/
def TopLevel (E : Env) : Prop := ∀ e n, E.decodeN e = some n → ∀ x, n ≠ .hash x

/-- the decoder of `Shisui/Trie/Rlp.lean` is one: `decodeNodeUnsafe` returns a short node or a full node -/
theorem decodeNodeF_top (fuel : Nat) (buf : List Nat) (n : Node) (h : decodeNodeF fuel buf = some n) :
    (∃ k v, n = .short k v) ∨ (∃ cs, n = .full cs) := by
  revert h
  fun_cases decodeNodeF fuel buf <;> intro h <;> cases h
  · exact .inl ⟨_, _, rfl⟩   -- two items, terminated key: a leaf
  · exact .inl ⟨_, _, rfl⟩   -- two items, no terminator: an extension
  · exact .inr ⟨_, rfl⟩      -- seventeen items: a full node

theorem link_nil_not_ok (E : Env) (q : Quirks) (hE : TopLevel E) (e : Bytes) (rp : Bytes × Path) :
    link E q e [] ≠ .ok rp := by
  intro h
  obtain ⟨n, hd, hr | ⟨_, hr⟩⟩ := (link_iff E q e [] rp.1 rp.2).mp h <;>
    exact (reachT_nil_is_hash hr rfl).elim (hE e n hd)

theorem link_consumes (E : Env) (q : Quirks) (hE : TopLevel E) (hq : q.leafAsRef = false) (e : Bytes) (path : Path)
    (r : Bytes) (rest : Path) (h : link E q e path = .ok (r, rest)) : rest.length < path.length := by
  obtain ⟨n, hd, hr | ⟨hq', _⟩⟩ := (link_iff E q e path r rest).mp h
  · exact reachT_ref_consumes hr (hE e n hd)
  · rw [hq] at hq'; cases hq'

theorem broken_link_err (E : Env) (q : Quirks) (root : Bytes) (path : Path) (pre : List Bytes) (a b : Bytes)
    (post : List Bytes) (p : Path) (r : Bytes) (p' : Path)
    (hpre : validateTrieProof E q root path (pre ++ [a]) = .ok (a, p)) (hl : link E q a p = .ok (r, p'))
    (hb : E.hashOf b ≠ r) : validateTrieProof E q root path (pre ++ a :: b :: post) = .err := by
  rw [List.append_cons, validateTrieProof_append E q root path _ _ _ hpre]
  simp [chainGo, hl, hb]

theorem wrong_path_err (E : Env) (q : Quirks) (hq : q.panics = false) (root : Bytes) (path : Path) (pre : List Bytes)
    (a b : Bytes) (post : List Bytes) (p : Path)
    (hpre : validateTrieProof E q root path (pre ++ [a]) = .ok (a, p)) (hl : ∀ r p', ¬ LinkRel E q a p r p') :
    validateTrieProof E q root path (pre ++ a :: b :: post) = .err := by
  rw [List.append_cons, validateTrieProof_append E q root path _ _ _ hpre, chainGo,
    res_err_of _ (link_no_panic E q hq a p) fun rp h => hl _ _ ((link_iff ..).mp h)]

theorem surplus_err (E : Env) (q : Quirks) (hq : q.panics = false) (hE : TopLevel E) (root nodeHash : Bytes)
    (path : Path) (proof : List Bytes) (last : Bytes) (h : validateTrieProof E q root path proof = .ok (last, []))
    (extra : Bytes) (more : List Bytes) : validateNode E q root nodeHash path (proof ++ extra :: more) = .err := by
  rw [validateNode, validateTrieProof_append E q root path _ _ _ h, chainGo,
    res_err_of _ (link_no_panic E q hq last []) (link_nil_not_ok E q hE last)]

/-- missing last node: the link to the dropped node used up part of the path, so the shorter proof leaves it unused -/
theorem missing_last_err (E : Env) (q : Quirks) (hq : q.panics = false) (hr : q.leafAsRef = false) (hE : TopLevel E)
    (root : Bytes) (path : Path) (init : List Bytes) (last : Bytes)
    (h : validateTrieProof E q root path (init ++ [last]) = .ok (last, [])) (nodeHash : Bytes) :
    validateNode E q root nodeHash path init = .err := by
  unfold validateNode
  cases hv : validateTrieProof E q root path init with
  | err => rfl
  | panic => exact absurd hv (validateTrieProof_no_panic E q hq root path init)
  | ok lp =>
    rw [validateTrieProof_append E q root path _ _ _ hv, chainGo] at h
    cases hl : link E q lp.1 lp.2 with
    | err => rw [hl] at h; cases h
    | panic => rw [hl] at h; cases h
    | ok rp =>
      simp only [hl, chainGo, ite_not, Res.guard_eq_ok, Res.ok.injEq, Prod.mk.injEq] at h
      have := link_consumes E q hE hr lp.1 lp.2 rp.1 rp.2 hl
      have hne : lp.2 ≠ [] := by rintro h0; rw [h0] at this; cases this
      simp [hne]

end Spv
