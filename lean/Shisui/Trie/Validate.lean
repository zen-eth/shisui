import Shisui.Trie.Tagged
import Shisui.Trie.Rlp
/-! Model of `state/validation.go` (`ValidateContent` and its three branches, `validateTrieProof`,
    `validateNodeTrieProof`, `validateAccountState`) and of `state/storage.go` (`Put` and its three branches),
    over an abstract environment: node hash, node decoder, account decoder (instantiated in the driver with the
    Lean Keccak-256 and the RLP decoders of `Shisui/Trie/Rlp.lean`).

    Deviations of the code from the property are Boolean switches (`Quirks`); all switches off is the ideal
    model the property theorems are about, all on is the tree as found. The three deviations are repaired in /repo
    (b3990c9, 9547aa9, b4c593b): the code is now the model with all switches off. -/
namespace Spv
open Tr

abbrev Bytes := List Nat
abbrev Path := List Nat

structure Env where
  hashOf : Bytes → Bytes
  decodeN : Bytes → Option Node
  decodeAcct : Bytes → Option Account
  emptyRoot : Bytes      -- types.EmptyRootHash
  emptyCode : Bytes      -- types.EmptyCodeHash

structure Quirks where
  /-- as found, `TraverseTrieNode` read `v.Key[len-1]` and `path[index]` unguarded: a short node with an empty key, or
      an extension key longer than what is left of the path, was a Go panic, not an error (repaired by b3990c9) -/
  panics : Bool
  /-- `TraverseTrieNode` returns a leaf VALUE and a child REFERENCE through the same `[]byte`: as found, the proof loop
      accepted a leaf value as the reference to the next node, and `validateAccountState` a child reference as the
      account (repaired by 9547aa9: both now call `TraverseTrieNodeKind` and test `isValue`) -/
  leafAsRef : Bool
  /-- as found, `putAccountTrieNode` and `putContractStorageTrieNode` read `Proof[len-1]` without a length check
      (repaired by b4c593b) -/
  putUnguarded : Bool

def ideal : Quirks := { panics := false, leafAsRef := false, putUnguarded := false }
def asImplemented : Quirks := { panics := true, leafAsRef := true, putUnguarded := true }

/-- one iteration of the proof loop up to the hash comparison: decode the current node, walk it along what is left
    of the path; result: (bytes the next node must hash to, remaining path) -/
def link (E : Env) (q : Quirks) (e : Bytes) (path : Path) : Res (Bytes × Path) :=
  match E.decodeN e with
  | none => .err
  | some n =>
    match traverseT n path with
    | .ok .ref h rest => .ok (h, rest)
    | .ok .val v rest => if q.leafAsRef then .ok (v, rest) else .err
    | .err => .err
    | .panic => if q.panics then .panic else .err

/-- the `for _, nextNode := range proof[1:]` loop; `node` is the current (already hash-checked) node -/
def chainGo (E : Env) (q : Quirks) (node : Bytes) (path : Path) : List Bytes → Res (Bytes × Path)
  | [] => .ok (node, path)
  | next :: more =>
    match link E q node path with
    | .ok rp => if E.hashOf next ≠ rp.1 then .err else chainGo E q next rp.2 more
    | .err => .err
    | .panic => .panic

/-- `validateTrieProof` -/
def validateTrieProof (E : Env) (q : Quirks) (root : Bytes) (path : Path) : List Bytes → Res (Bytes × Path)
  | [] => .err                                        -- "proof should not be empty"
  | first :: more => if E.hashOf first ≠ root then .err else chainGo E q first path more

/-- `validateNodeTrieProof`; returns the final node -/
def validateNode (E : Env) (q : Quirks) (root nodeHash : Bytes) (path : Path) (proof : List Bytes) : Res Bytes :=
  match validateTrieProof E q root path proof with
  | .ok lp => if lp.2 ≠ [] then .err                  -- "path is too long"
              else if E.hashOf lp.1 ≠ nodeHash then .err else .ok lp.1
  | .err => .err
  | .panic => .panic

/-- the account bytes under the last node of an account proof (`TraverseTrieNode(n, p)` in `validateAccountState`;
    the remaining path it returns is discarded there) -/
def accountBytes (E : Env) (q : Quirks) (e : Bytes) (path : Path) : Res Bytes :=
  match E.decodeN e with
  | none => .err
  | some n =>
    match traverseT n path with
    | .ok .val v _ => .ok v
    | .ok .ref h _ => if q.leafAsRef then .ok h else .err
    | .err => .err
    | .panic => if q.panics then .panic else .err

def nibblesOf (b : Bytes) : Path := b.flatMap fun x => [x / 16, x % 16]

/-- storage root / code hash of the consensus account as `types.FullAccount` fills them in -/
def fullRoot (E : Env) (a : Account) : Bytes := if a.root = [] then E.emptyRoot else bytesToHash a.root
def fullCodeHash (E : Env) (a : Account) : Bytes := if a.codeHash = [] then E.emptyCode else a.codeHash

/-- `validateAccountState` -/
def validateAccountState (E : Env) (q : Quirks) (root addrHash : Bytes) (proof : List Bytes) : Res Account :=
  match validateTrieProof E q root (nibblesOf addrHash) proof with
  | .ok lp =>
    match accountBytes E q lp.1 lp.2 with
    | .ok b => match E.decodeAcct b with
      | some a => .ok a
      | none => .err
    | .err => .err
    | .panic => .panic
  | .err => .err
  | .panic => .panic

/-- a content item as the SSZ decoders deliver it: key fields and value fields (unused fields are empty) -/
structure Item where
  keyType : Nat
  path : Path               -- key.Path
  nodeHash : Bytes          -- key.NodeHash, or key.CodeHash for bytecode
  addrHash : Bytes          -- key.AddressHash (storage, bytecode)
  proof : List Bytes        -- value.Proof (account trie node) / value.StorageProof
  acctProof : List Bytes    -- value.AccountProof (storage, bytecode)
  code : Bytes              -- value.Code (bytecode)
  blockHash : Bytes

def proofFits (p : List Bytes) : Bool := p.length ≤ 65 && p.all fun e => e.length ≤ 1024

/-- what the SSZ decoders of key and value insist on (`FromUnpackedNibbles`, `MaxTrieProofLength`,
    `MaxTrieNodeLength`, `MaxContractBytecodeLength`) -/
def decodes (it : Item) : Bool :=
  if it.keyType = 0x20 then it.path.length ≤ 64 && proofFits it.proof
  else if it.keyType = 0x21 then it.path.length ≤ 64 && proofFits it.proof && proofFits it.acctProof
  else if it.keyType = 0x22 then it.code.length ≤ 32768 && proofFits it.acctProof
  else false

def unit {α : Type} : Res α → Res Unit
  | .ok _ => .ok ()
  | .err => .err
  | .panic => .panic

/-- `StateValidator.ValidateContent`; `oracle` is the header source: block hash ↦ state root of that header -/
def validateContent (E : Env) (q : Quirks) (oracle : Bytes → Option Bytes) (it : Item) : Res Unit :=
  if !decodes it then .err else
  match oracle it.blockHash with
  | none => .err
  | some root =>
    if it.keyType = 0x20 then unit (validateNode E q root it.nodeHash it.path it.proof)
    else if it.keyType = 0x21 then
      match validateAccountState E q root it.addrHash it.acctProof with
      | .ok a => unit (validateNode E q (fullRoot E a) it.nodeHash it.path it.proof)
      | .err => .err
      | .panic => .panic
    else
      match validateAccountState E q root it.addrHash it.acctProof with
      | .ok a => if fullCodeHash E a ≠ it.nodeHash then .err else .ok ()
      | .err => .err
      | .panic => .panic

/-- SSZ container with one variable-size field: a 4-byte offset (= 4) and the bytes (`TrieNode`, `ContractBytecodeContainer`) -/
def container (b : Bytes) : Bytes := [4, 0, 0, 0] ++ b

/-- `Storage.Put`: the value handed to the underlying store -/
def put (E : Env) (q : Quirks) (it : Item) : Res Bytes :=
  if !decodes it then .err else
  if it.keyType = 0x22 then
    if E.hashOf it.code ≠ it.nodeHash then .err else .ok (container it.code)
  else
    match it.proof.getLast? with
    | none => if q.putUnguarded then .panic else .err
    | some last => if E.hashOf last ≠ it.nodeHash then .err else .ok (container last)

end Spv
