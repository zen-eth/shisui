import Shisui.Trie.Basic
/-! `TraverseTrieNode` returns one `[]byte` both for a child reference (`hashNode`) and for a leaf value
    (`valueNode`). The property distinguishes them ("each following node is the child the previous one
    references"), so this file repeats the traversal with the kind of the hit made explicit, proves that
    forgetting the kind gives back `Tr.traverse` (`traverseT_erase`), and characterises it by a tagged walk relation.
    `traverseT` is the function Driver/C13 runs against the Go code. What is proved of the untagged pair `traverse` /
    `Reach` of `Basic.lean` is derived here from the tagged pair. -/
namespace Tr

inductive Hit where
  | ref   -- a 32-byte child reference (Go `hashNode`)
  | val   -- the value of a leaf (Go `valueNode`)
deriving DecidableEq, Repr

inductive OutT where
  | ok (k : Hit) (bytes : List Nat) (rest : List Nat)
  | err
  | panic
deriving DecidableEq, Repr

def OutT.erase : OutT → Outcome
  | .ok _ b r => .ok b r
  | .err => .err
  | .panic => .panic

/-- `state/trie/utils.go: TraverseTrieNodeKind` (`isValue` = `Hit.val`; `TraverseTrieNode` is it with `isValue`
    dropped). Where this says `.panic` the tree as found indexed out of range or failed a type assertion; since
    b3990c9 Go returns an error there (`Spv.Quirks.panics` chooses between the two readings). -/
def traverseT (n : Node) (path : List Nat) : OutT :=
  match n, path with
  | .full _, [] => .err
  | .full cs, p :: ps =>
    match cs[p]? with
    | none => .panic
    | some c => traverseT c ps
  | .short key val, path =>
    match hg : key.getLast? with
    | none => .panic                                   -- v.Key[length-1] with length 0
    | some last =>
      if last = 16 then
        if key.dropLast = [] then .err
        else if key.dropLast ≠ path then .err
        else match val with
          | .value v => .ok .val v path
          | _ => .panic                                -- (v.Val).(valueNode)
      else
        match hm : matchKey key path with
        | .ok _ rest => traverseT val rest
        | .err => .err
        | .panic => .panic                             -- path[index] beyond the end of the path
  | .hash h, path => .ok .ref h path
  | .value _, _ => .err
  | .empty, _ => .err
termination_by path.length
decreasing_by
  · simp
  · have := matchKey_ok key path _ rest hm
    have hk : key ≠ [] := by
      intro h; subst h; simp at hg
    have : 0 < key.length := List.length_pos_iff.mpr hk
    rw [‹path = key ++ rest ∧ _›.1]
    simp; omega

/-- `traverseT` on a short node, without the equations `hg`, `hm` that only its termination proof reads -/
theorem traverseT_short (key : List Nat) (val : Node) (path : List Nat) :
    traverseT (.short key val) path =
      match key.getLast? with
      | none => .panic
      | some last =>
        if last = 16 then
          if key.dropLast = [] then .err
          else if key.dropLast ≠ path then .err
          else match val with
            | .value v => .ok .val v path
            | _ => .panic
        else
          match matchKey key path with
          | .ok _ rest => traverseT val rest
          | .err => .err
          | .panic => .panic := by
  rw [traverseT.eq_def]
  dsimp only
  cases key.getLast? with
  | none => rfl
  | some last => cases matchKey key path <;> rfl

/-- forgetting the kind of the hit gives `traverse`, which returns both kinds through one `[]byte` as Go's
    `TraverseTrieNode` does -/
theorem traverseT_erase (n : Node) (path : List Nat) : (traverseT n path).erase = traverse n path := by
  -- the two functions have the same code: each branch of `traverseT`, under its conditions, is the same branch of `traverse`
  fun_induction traverseT n path
  all_goals simp only [traverse_short, traverse, ↓reduceIte, ne_eq, not_false_eq_true, *]
  all_goals rfl

theorem OutT.erase_eq_ok {o : OutT} {b rest : List Nat} : o.erase = .ok b rest ↔ ∃ k, o = .ok k b rest := by
  cases o <;> simp [OutT.erase]

theorem traverseT_empty_key (val : Node) (path : List Nat) : traverseT (.short [] val) path = .panic := by
  rw [traverseT_short]; rfl

theorem traverseT_ext (key : List Nat) (val : Node) (rest' : List Nat) (hk : key ≠ [])
    (hl : key.getLast? ≠ some 16) : traverseT (.short key val) (key ++ rest') = traverseT val rest' := by
  rw [traverseT_short, matchKey_append]
  cases hg : key.getLast? with
  | none => exact absurd (List.getLast?_eq_none_iff.mp hg) hk
  | some last => exact if_neg fun h => hl (hg.trans (congrArg some h))

theorem traverseT_leaf (pre v : List Nat) (hp : pre ≠ []) :
    traverseT (.short (pre ++ [16]) (.value v)) pre = .ok .val v pre := by
  simp [traverseT_short, hp]

/-- tagged walk: `ReachT n path k bytes rest` — walking `n` along `path` ends at a child reference (`k = ref`) with
    `rest` unconsumed, or at the value of a leaf whose key is exactly the remaining path (`k = val`; Go returns that
    remaining path unchanged) -/
inductive ReachT : Node → List Nat → Hit → List Nat → List Nat → Prop where
  | hash (h path) : ReachT (.hash h) path .ref h path
  | full (cs p ps c k b rest) : cs[p]? = some c → ReachT c ps k b rest → ReachT (.full cs) (p :: ps) k b rest
  | ext (key val rest' k b rest) : key ≠ [] → key.getLast? ≠ some 16 →
      ReachT val rest' k b rest → ReachT (.short key val) (key ++ rest') k b rest
  | leaf (pre v) : pre ≠ [] → ReachT (.short (pre ++ [16]) (.value v)) pre .val v pre

theorem key_split (key : List Nat) (h : key.getLast? = some 16) : key = key.dropLast ++ [16] := by
  obtain ⟨ys, rfl⟩ := List.getLast?_eq_some_iff.mp h
  simp

theorem traverseT_sound (n : Node) (path : List Nat) (k : Hit) (b rest : List Nat) :
    traverseT n path = .ok k b rest → ReachT n path k b rest := by
  fun_induction traverseT n path with
  | case3 cs p ps c hc ih => exact fun h => .full cs p ps c k b rest hc (ih h)
  | case7 key path hd hne v hg =>  -- leaf: `key = key.dropLast ++ [16]` and `key.dropLast = path`
    rintro ⟨⟩
    rw [key_split key hg, ← Decidable.not_not.mp hne]
    exact .leaf _ _ hd
  | case9 key val path last hg hl r rest' hm ih =>  -- extension: `path = key ++ rest'`
    intro h
    rw [(matchKey_ok key path r rest' hm).1]
    exact .ext key val rest' k b rest (by rintro rfl; cases hg) (by rw [hg]; simpa using hl) (ih h)
  | case12 hh path => rintro ⟨⟩; exact .hash _ _
  | _ => nofun

theorem traverseT_complete (n : Node) (path : List Nat) (k : Hit) (b rest : List Nat)
    (h : ReachT n path k b rest) : traverseT n path = .ok k b rest := by
  induction h with
  | hash h path => rw [traverseT]
  | full cs p ps c k b rest hc _ ih => rw [traverseT, hc]; exact ih
  | ext key val rest' k b rest hk hl _ ih => rw [traverseT_ext key val rest' hk hl]; exact ih
  | leaf pre v hp => exact traverseT_leaf pre v hp

theorem traverseT_iff (n : Node) (path : List Nat) (k : Hit) (b rest : List Nat) :
    traverseT n path = .ok k b rest ↔ ReachT n path k b rest :=
  ⟨traverseT_sound n path k b rest, traverseT_complete n path k b rest⟩

theorem reachT_length_le {n : Node} {path : List Nat} {k : Hit} {b rest : List Nat} (h : ReachT n path k b rest) :
    rest.length ≤ path.length := by
  induction h with
  | hash | leaf => exact Nat.le_refl _
  | full _ _ _ _ _ _ _ _ _ ih => exact Nat.le_succ_of_le ih
  | ext _ _ _ _ _ _ _ _ _ ih => rw [List.length_append]; exact Nat.le_add_left_of_le ih

theorem reachT_ref_consumes {n : Node} {path : List Nat} {b rest : List Nat} (h : ReachT n path .ref b rest)
    (hn : ∀ x, n ≠ .hash x) : rest.length < path.length := by
  cases h with
  | hash h path => exact absurd rfl (hn _)
  | full cs p ps c k b rest hc h' => exact Nat.lt_succ_of_le (reachT_length_le h')
  | ext key val rest' k b rest hk hl h' =>
    rw [List.length_append]
    exact Nat.lt_of_le_of_lt (reachT_length_le h') (Nat.lt_add_of_pos_left (List.length_pos_iff.mpr hk))

theorem reachT_nil_is_hash {n : Node} {path : List Nat} {k : Hit} {b rest : List Nat} (h : ReachT n path k b rest)
    (hp : path = []) : ∃ x, n = .hash x := by
  cases h with
  | hash h path => exact ⟨_, rfl⟩
  | full cs p ps c k b rest hc h' => cases hp
  | ext key val rest' k b rest hk hl h' => exact absurd (List.append_eq_nil_iff.mp hp).1 hk
  | leaf pre v hne => exact absurd hp hne

/-! ## The untagged pair: `traverse` and `Reach` are `traverseT` and `ReachT` with the kind of the hit forgotten -/

theorem reach_iff_reachT {n : Node} {path ref rest : List Nat} :
    Reach n path ref rest ↔ ∃ k, ReachT n path k ref rest := by
  constructor
  · intro h
    induction h with
    | hash h path => exact ⟨_, .hash h path⟩
    | full cs p ps c ref rest hc _ ih => exact ih.imp fun k h => .full cs p ps c k ref rest hc h
    | ext key val rest' ref rest hk hl _ ih => exact ih.imp fun k h => .ext key val rest' k ref rest hk hl h
    | leaf pre v hp => exact ⟨_, .leaf pre v hp⟩
  · rintro ⟨k, h⟩
    induction h with
    | hash h path => exact .hash h path
    | full cs p ps c k ref rest hc _ ih => exact .full cs p ps c ref rest hc ih
    | ext key val rest' k ref rest hk hl _ ih => exact .ext key val rest' ref rest hk hl ih
    | leaf pre v hp => exact .leaf pre v hp

theorem traverse_iff (n : Node) (path ref rest : List Nat) :
    traverse n path = .ok ref rest ↔ Reach n path ref rest := by
  rw [← traverseT_erase, OutT.erase_eq_ok, reach_iff_reachT]
  simp only [traverseT_iff]

theorem traverse_sound (n : Node) (path ref rest : List Nat) :
    traverse n path = .ok ref rest → Reach n path ref rest := (traverse_iff n path ref rest).mp

theorem traverse_complete (n : Node) (path ref rest : List Nat) (h : Reach n path ref rest) :
    traverse n path = .ok ref rest := (traverse_iff n path ref rest).mpr h

theorem traverse_ext (key : List Nat) (val : Node) (rest' : List Nat) (hk : key ≠ [])
    (hl : key.getLast? ≠ some 16) : traverse (.short key val) (key ++ rest') = traverse val rest' := by
  rw [← traverseT_erase, ← traverseT_erase, traverseT_ext key val rest' hk hl]

theorem traverse_leaf (pre v : List Nat) (hp : pre ≠ []) :
    traverse (.short (pre ++ [16]) (.value v)) pre = .ok v pre := by
  rw [← traverseT_erase, traverseT_leaf pre v hp]; rfl

#print axioms traverseT_erase
#print axioms traverseT_iff
#print axioms traverse_sound
#print axioms traverse_complete
end Tr
