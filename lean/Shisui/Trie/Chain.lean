import Shisui.Trie.Tagged
namespace Tr

/-! `validateTrieProof` of state/validation.go over abstract encoded nodes and the untagged `traverse`: as in the tree as
    found, a leaf value is followed like a child reference and a panic of the traversal is a panic of the loop. The file
    is the chain check in the vocabulary of `Basic.lean`, with a theorem of its own, `Tr.validateTrieProof_iff`; no
    theorem of Props/C13, no driver and no check uses it. C13 rests on `Spv.validateTrieProof` (`Validate.lean`), the
    same loop over `traverseT` with a switch for each of the two. -/

variable {Enc : Type} (hashOf : Enc → List Nat) (decodeN : Enc → Option Node)

/-- the loop: `node` is the current (already hash-checked) encoded node -/
def go (node : Enc) (path : List Nat) : List Enc → Res (Enc × List Nat)
  | [] => .ok (node, path)
  | next :: rest =>
    match decodeN node with
    | none => .err
    | some n =>
      match traverse n path with
      | .ok ref p => if hashOf next ≠ ref then .err else go next p rest
      | .err => .err
      | .panic => .panic

def validateTrieProof (root : List Nat) (path : List Nat) : List Enc → Res (Enc × List Nat)
  | [] => .err                                        -- "proof should not be empty"
  | first :: rest => if hashOf first ≠ root then .err else go hashOf decodeN first path rest

/-- specification: a chain of nodes, the first hashing to `root`, each next one being the reference
    reached by walking the previous one along the (remaining) path -/
inductive Linked : List Nat → List Nat → List Enc → Enc → List Nat → Prop where
  | single (root path e) : hashOf e = root → Linked root path [e] e path
  | cons (root path e n ref p e' more last rest) :
      hashOf e = root → decodeN e = some n → Reach n path ref p →
      Linked ref p (e' :: more) last rest → Linked root path (e :: e' :: more) last rest

/-- the loop read as a recursion over the proof: check the first node against the root, walk it, and validate the
    remaining nodes against the reference reached, along the remaining path -/
theorem validateTrieProof_cons (root path : List Nat) (e e' : Enc) (more : List Enc) :
    validateTrieProof hashOf decodeN root path (e :: e' :: more) =
      if hashOf e ≠ root then .err else
        match decodeN e with
        | none => .err
        | some n =>
          match traverse n path with
          | .ok ref p => validateTrieProof hashOf decodeN ref p (e' :: more)
          | .err => .err
          | .panic => .panic := rfl

theorem validateTrieProof_iff (root path : List Nat) (proof : List Enc) (last : Enc) (rest : List Nat) :
    validateTrieProof hashOf decodeN root path proof = .ok (last, rest) ↔
      Linked hashOf decodeN root path proof last rest := by
  constructor
  · intro h
    cases proof with
    | nil => cases h
    | cons e more =>
      induction more generalizing e root path with
      | nil =>
        simp only [validateTrieProof, go, ite_not, Res.guard_eq_ok, Res.ok.injEq, Prod.mk.injEq] at h
        obtain ⟨hr, rfl, rfl⟩ := h
        exact .single _ _ _ hr
      | cons e' more ih =>
        simp only [validateTrieProof_cons, ite_not, Res.guard_eq_ok] at h
        cases hd : decodeN e with
        | none => simp [hd] at h
        | some n =>
          cases ht : traverse n path with
          | ok ref p =>
            simp only [hd, ht] at h
            exact .cons _ _ _ n ref p _ _ _ _ h.1 hd (traverse_sound n path ref p ht) (ih _ _ _ h.2)
          | err => simp [hd, ht] at h
          | panic => simp [hd, ht] at h
  · intro h
    induction h with
    | single root path e he => simp [validateTrieProof, go, he]
    | cons root path e n ref p e' more last rest he hd hr _ ih =>
      simp [validateTrieProof_cons, he, hd, traverse_complete n path ref p hr, ih]

#print axioms validateTrieProof_iff
end Tr
