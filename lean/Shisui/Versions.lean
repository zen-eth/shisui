/-! C19: protocol version negotiation (portal_protocol_v1.go), with the versions cache as state. -/
namespace Vs

/-- `findBiggestSameNumber`: fold over `b`, keeping the largest element that is also in `a` -/
def biggestCommon (a b : List Nat) : Option Nat :=
  if a = [] ∨ b = [] then none
  else b.foldl (fun acc v => if v ∈ a then (match acc with | none => some v | some m => some (max m v)) else acc) none

/-- the fold of `findBiggestSameNumber` is the library's running maximum over the elements of `b` that occur in `a` -/
theorem foldl_eq_max? (a b : List Nat) (acc : Option Nat) :
    b.foldl (fun acc v => if v ∈ a then (match acc with | none => some v | some m => some (max m v)) else acc) acc
      = (acc.toList ++ b.filter (· ∈ a)).max? := by
  induction b generalizing acc with
  | nil => cases acc <;> rfl
  | cons x xs ih =>
    rw [List.foldl_cons, ih, List.filter_cons]
    by_cases hx : x ∈ a
    · cases acc <;>
        simp only [hx, decide_true, if_true, Option.toList, List.nil_append, List.cons_append, List.max?_cons', List.foldl_cons]
    · simp only [hx, decide_false, if_false]; rfl

theorem biggestCommon_eq (a b : List Nat) : biggestCommon a b = (b.filter (· ∈ a)).max? := by
  unfold biggestCommon
  split
  next h =>
    symm
    rw [List.max?_eq_none_iff, List.filter_eq_nil_iff]
    rcases h with rfl | rfl <;> simp
  next => exact foldl_eq_max? a b none

theorem biggestCommon_eq_some_iff {a b : List Nat} {m : Nat} :
    biggestCommon a b = some m ↔ m ∈ a ∧ m ∈ b ∧ ∀ v, v ∈ a → v ∈ b → v ≤ m := by
  rw [biggestCommon_eq, List.max?_eq_some_iff]
  simp only [List.mem_filter, decide_eq_true_eq]
  exact ⟨fun ⟨⟨hb, ha⟩, h⟩ => ⟨ha, hb, fun v va vb => h v ⟨vb, va⟩⟩, fun ⟨ha, hb, h⟩ => ⟨⟨hb, ha⟩, fun v ⟨vb, va⟩ => h v va vb⟩⟩

theorem biggestCommon_eq_none_iff {a b : List Nat} : biggestCommon a b = none ↔ ∀ v, v ∈ a → v ∉ b := by
  rw [biggestCommon_eq, List.max?_eq_none_iff, List.filter_eq_nil_iff]
  simp only [decide_eq_true_eq]
  exact ⟨fun h v va vb => h v vb va, fun h v vb va => h v va vb⟩

theorem biggestCommon_comm (a b : List Nat) : biggestCommon a b = biggestCommon b a := by
  apply Option.ext
  intro m
  rw [biggestCommon_eq_some_iff, biggestCommon_eq_some_iff]
  exact ⟨fun ⟨ha, hb, h⟩ => ⟨hb, ha, fun v vb va => h v va vb⟩, fun ⟨hb, ha, h⟩ => ⟨ha, hb, fun v va vb => h v vb va⟩⟩

inductive Res | ok (v : Nat) | err
deriving DecidableEq, Repr

/-- `getOrStoreHighestVersion` for a peer advertising `peer` (`none` = no `pv` entry);
    `quirk` = store on error: what the code does, the value goes into the cache even when the computation failed.
    `own.headD 0` is Go's `p.currentVersions[0]`, read unguarded: the own list is assumed non-empty (as the check of C19
    assumes) -/
def getOrStore (quirk : Bool) (own : List Nat) (cache : Option Nat) (peer : Option (List Nat)) :
    Option Nat × Res :=
  match cache with
  | some v => (cache, .ok v)
  | none =>
    match peer with
    | none => (some (own.headD 0), .ok (own.headD 0))
    | some pv =>
      match biggestCommon own pv with
      | some v => (some v, .ok v)
      | none => (if quirk then some 0 else none, .err)

def run (quirk : Bool) (own : List Nat) (peer : Option (List Nat)) : Nat → Option Nat → List Res
  | 0, _ => []
  | n + 1, cache => let (c, r) := getOrStore quirk own cache peer; r :: run quirk own peer n c

/-- ideal model: with no common version *every* call fails, however often it is repeated -/
theorem no_common_always_error (own pv : List Nat) (h : biggestCommon own pv = none) (n : Nat) :
    ∀ r ∈ run false own (some pv) n none, r = .err := by
  induction n with
  | zero => intro r hr; cases hr
  | succ n ih =>
    rw [run, getOrStore, h]
    exact List.forall_mem_cons.mpr ⟨rfl, ih⟩

#print axioms biggestCommon_eq_some_iff
#print axioms no_common_always_error
end Vs
