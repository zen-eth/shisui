/-! A smaller model of `HistoryValidator.ValidateContent` than `Shisui/History/Content.lean` (namespace `Hc`), which is the one
C02 rests on: the observation level only, with numbers for hashes and roots, a Boolean for the verdict of the header-proof
check, three of the five switches, and `Bound` without the header source. No other module uses it; its theorems say of this
model what `Hc.validate_decides` and the witnesses of `Props.C02` say of that one. -/
namespace Hv

structure Hdr where
  hash : Nat
  number : Nat
  txRoot : Nat
  uncleRoot : Nat
  wdRoot : Option Nat          -- header.WithdrawalsHash (nil before Shanghai)
  receiptRoot : Nat
deriving DecidableEq, Repr

structure Body where           -- roots recomputed from the decoded body
  txRoot : Nat
  uncleRoot : Nat
  wdRoot : Option Nat          -- none: legacy encoding (no withdrawals list)
deriving DecidableEq, Repr

inductive Key where
  | headerByHash (h : Nat) | headerByNumber (n : Nat) | body (h : Nat) | receipts (h : Nat)
deriving DecidableEq, Repr

inductive Content where
  | header (h : Hdr) (proofOk : Bool)      -- decoded header + verdict of the C03 proof check
  | body (b : Body)
  | receipts (root : Nat) (empty : Bool)   -- recomputed receipt root; whether the content bytes are empty
  | undecodable
deriving DecidableEq, Repr

structure Quirks where
  oracleUnbound : Bool := false            -- looked-up header not compared with the requested hash
  legacyBodySkipsWithdrawals : Bool := false
  nilWithdrawalsHashDeref : Bool := false  -- C01: Shanghai body under a pre-Shanghai header panics

inductive Out | ok | err | panic
deriving DecidableEq, Repr

def emptyReceiptRoot : Nat := 0

/-- header source as the validator sees it -/
def lookup (q : Quirks) (oracle : Nat → Option Hdr) (h : Nat) : Option Hdr :=
  match oracle h with
  | some hd => if q.oracleUnbound || hd.hash = h then some hd else none
  | none => none

def validate (q : Quirks) (oracle : Nat → Option Hdr) : Key → Content → Out
  | .headerByHash h, .header hd ok => if hd.hash = h ∧ ok then .ok else .err
  | .headerByNumber n, .header hd ok => if hd.number = n ∧ ok then .ok else .err
  | .body h, .body b =>
    match lookup q oracle h with
    | none => .err
    | some hd =>
      if b.uncleRoot ≠ hd.uncleRoot then .err
      else if b.txRoot ≠ hd.txRoot then .err
      else match b.wdRoot, hd.wdRoot with
        | none, none => .ok
        | none, some _ => if q.legacyBodySkipsWithdrawals then .ok else .err
        | some _, none => if q.nilWithdrawalsHashDeref then .panic else .err
        | some w, some w' => if w = w' then .ok else .err
  | .receipts h, .receipts root empty =>
    match lookup q oracle h with
    | none => .err
    | some hd =>
      if hd.receiptRoot = emptyReceiptRoot then (if empty then .ok else .err)
      else if root = hd.receiptRoot then .ok else .err
  | _, _ => .err

/-- what "bound to its key" means: relative to *a header whose hash is the key's* -/
def Bound (key : Key) (c : Content) : Prop :=
  match key, c with
  | .headerByHash h, .header hd ok => hd.hash = h ∧ ok = true
  | .headerByNumber n, .header hd ok => hd.number = n ∧ ok = true
  | .body h, .body b => ∃ hd : Hdr, hd.hash = h ∧ b.txRoot = hd.txRoot ∧ b.uncleRoot = hd.uncleRoot ∧ b.wdRoot = hd.wdRoot
  | .receipts h, .receipts root empty =>
      ∃ hd : Hdr, hd.hash = h ∧ (if hd.receiptRoot = emptyReceiptRoot then empty = true else root = hd.receiptRoot)
  | _, _ => False

theorem lookup_bound (oracle : Nat → Option Hdr) (h : Nat) (hd : Hdr) (hl : lookup {} oracle h = some hd) : hd.hash = h := by
  unfold lookup at hl
  split at hl
  · split at hl
    next hh =>
      cases hl
      exact of_decide_eq_true hh
    next => cases hl
  · cases hl

/-- Leaf by leaf: a leaf of `validate {}` that says `ok` has on its path the comparisons `Bound` asks for, the two leaves
    behind a switch are closed, and every other leaf says `err`. -/
theorem validate_ideal (oracle : Nat → Option Hdr) (key : Key) (c : Content) :
    validate {} oracle key c = .err ∨ (validate {} oracle key c = .ok ∧ Bound key c) := by
  fun_cases validate {} oracle key c
  case case1 hb | case3 hb =>               -- a header under its hash, under its number
    exact .inr ⟨rfl, hb⟩
  case case8 h b hd hl hu ht hw hbw =>      -- body and header both without withdrawals
    exact .inr ⟨rfl, hd, lookup_bound oracle h hd hl, Decidable.not_not.1 ht, Decidable.not_not.1 hu, hbw.trans hw.symm⟩
  case case13 h b hd hl hu ht w hw hbw =>   -- the same withdrawals root in both
    exact .inr ⟨rfl, hd, lookup_bound oracle h hd hl, Decidable.not_not.1 ht, Decidable.not_not.1 hu, hbw.trans hw.symm⟩
  case case16 h root hd hl he =>            -- no receipts under the empty root
    exact .inr ⟨rfl, hd, lookup_bound oracle h hd hl, (if_pos he).mpr rfl⟩
  case case18 h empty hd hl he =>           -- receipts with the header's root
    exact .inr ⟨rfl, hd, lookup_bound oracle h hd hl, (if_neg he).mpr rfl⟩
  case case9 | case11 =>                    -- `legacyBodySkipsWithdrawals`, `nilWithdrawalsHashDeref`
    contradiction
  all_goals exact .inl rfl

/-- C01 for this validator (ideal model): no input makes it panic -/
theorem never_panics (oracle : Nat → Option Hdr) (key : Key) (c : Content) :
    validate {} oracle key c ≠ .panic := by
  rcases validate_ideal oracle key c with h | ⟨h, _⟩ <;> rw [h] <;> nofun

/-- C02 (ideal model): accepted ⇒ bound, for every header source however it lies -/
theorem accept_sound (oracle : Nat → Option Hdr) (key : Key) (c : Content)
    (hv : validate {} oracle key c = .ok) : Bound key c :=
  ((validate_ideal oracle key c).resolve_left (by rw [hv]; nofun)).2

/-- the tree as found (validation/oracle.go before 77e9eff): a lying header source gets a forged body accepted -/
theorem quirk_oracle_unbound_breaks_C02 :
    let forged : Hdr := { hash := 999, number := 1, txRoot := 7, uncleRoot := 8, wdRoot := none, receiptRoot := 9 }
    validate { oracleUnbound := true } (fun _ => some forged) (.body 42) (.body { txRoot := 7, uncleRoot := 8, wdRoot := none }) = .ok := by
  decide

/-- the tree as found (history_network.go before 265171a): a body without its withdrawals is accepted for a header that
    commits to them -/
theorem quirk_legacy_body_breaks_C02 :
    let hd : Hdr := { hash := 42, number := 18000000, txRoot := 7, uncleRoot := 8, wdRoot := some 5, receiptRoot := 9 }
    validate { legacyBodySkipsWithdrawals := true } (fun _ => some hd) (.body 42) (.body { txRoot := 7, uncleRoot := 8, wdRoot := none }) = .ok := by
  decide

#print axioms accept_sound
#print axioms never_panics
end Hv
