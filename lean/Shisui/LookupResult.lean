/-! C10: `nodesByDistance.push` keeps the k closest of everything pushed, sorted. -/
namespace Nd

variable (d : Nat → Nat)   -- distance to the target (injective on ids for XOR; not needed below)

/-- insert before the first entry that is strictly farther (what `sort.Search` + `copy` do) -/
def insertSorted (n : Nat) : List Nat → List Nat
  | [] => [n]
  | x :: xs => if d x > d n then n :: x :: xs else x :: insertSorted n xs

/-- `push(n, k)` -/
def push (k : Nat) (res : List Nat) (n : Nat) : List Nat := (insertSorted d n res).take k

def Sorted (l : List Nat) : Prop := l.Pairwise (fun a b => d a ≤ d b)

theorem mem_insertSorted (n m : Nat) (l : List Nat) : m ∈ insertSorted d n l ↔ m = n ∨ m ∈ l := by
  induction l with
  | nil => simp [insertSorted]
  | cons x xs ih => simp only [insertSorted]; split <;> simp [ih, or_left_comm]

theorem insertSorted_sorted (n : Nat) (l : List Nat) (h : Sorted d l) : Sorted d (insertSorted d n l) := by
  induction l with
  | nil => exact List.pairwise_singleton ..
  | cons x xs ih =>
    have ⟨hx, hxs⟩ := List.pairwise_cons.mp h
    simp only [insertSorted]
    split
    · next hgt =>
      -- `n` goes in front: it is closer than `x`, hence than everything behind `x`
      refine List.pairwise_cons.mpr ⟨fun b hb => ?_, h⟩
      rcases List.mem_cons.mp hb with rfl | hb
      · exact Nat.le_of_lt hgt
      · exact Nat.le_trans (Nat.le_of_lt hgt) (hx b hb)
    · next hle =>
      refine List.pairwise_cons.mpr ⟨fun b hb => ?_, ih hxs⟩
      rcases (mem_insertSorted d n b xs).mp hb with rfl | hb
      · exact Nat.le_of_not_lt hle
      · exact hx b hb

/-- an insertion in front of position k does not see what lies behind k, and one behind k is cut off again -/
theorem take_insert_take (n : Nat) (l : List Nat) (k : Nat) :
    (insertSorted d n (l.take k)).take k = (insertSorted d n l).take k := by
  induction l generalizing k with
  | nil => rw [List.take_nil]
  | cons x xs ih =>
    cases k with
    | zero => rfl
    | succ k =>
      rw [List.take_succ_cons, insertSorted, insertSorted]
      split
      · -- `n` goes in front of `x`: both sides are `n` and then the first k of `x :: xs`
        rw [← List.take_succ_cons, List.take_succ_cons (a := n), List.take_succ_cons (a := n), List.take_take,
          Nat.min_eq_left (Nat.le_succ k)]
      · rw [List.take_succ_cons, List.take_succ_cons, ih]

/-- everything pushed so far, fully sorted (no truncation) -/
def allSorted (seen : List Nat) : List Nat := seen.foldl (fun acc n => insertSorted d n acc) []

/-- the result after pushing `seen` one by one with capacity `k` -/
def result (k : Nat) (seen : List Nat) : List Nat := seen.foldl (push d k) []

theorem result_eq_take (k : Nat) (seen : List Nat) : result d k seen = (allSorted d seen).take k := by
  have := List.foldl_hom (List.take k) (g₁ := fun a n => insertSorted d n a) (g₂ := push d k) (l := seen) (init := [])
    fun x y => take_insert_take d y x k
  rwa [List.take_nil] at this

theorem allSorted_sorted (seen : List Nat) : Sorted d (allSorted d seen) :=
  List.foldlRecOn seen _ List.Pairwise.nil fun acc h x _ => insertSorted_sorted d x acc h

theorem mem_allSorted_aux (seen acc : List Nat) (m : Nat) :
    m ∈ seen.foldl (fun a n => insertSorted d n a) acc ↔ m ∈ seen ∨ m ∈ acc := by
  induction seen generalizing acc with
  | nil => simp
  | cons x xs ih => rw [List.foldl_cons, ih, mem_insertSorted, List.mem_cons, or_assoc, or_left_comm]

theorem mem_allSorted (seen : List Nat) (m : Nat) : m ∈ allSorted d seen ↔ m ∈ seen := by
  simp [allSorted, mem_allSorted_aux]

/-- C10: at most k nodes, sorted by distance, and no seen node closer than a returned one is omitted -/
theorem result_closest (k : Nat) (seen : List Nat) :
    (result d k seen).length ≤ k ∧ Sorted d (result d k seen) ∧
    (∀ r ∈ result d k seen, r ∈ seen) ∧
    (∀ r ∈ result d k seen, ∀ m ∈ (allSorted d seen).drop k, d r ≤ d m) := by
  rw [result_eq_take]
  refine ⟨List.length_take_le k _, ?_, ?_, ?_⟩
  · exact List.Pairwise.sublist (List.take_sublist _ _) (allSorted_sorted d seen)
  · intro r hr
    exact (mem_allSorted d seen r).mp (List.mem_of_mem_take hr)
  · intro r hr m hm
    have hs := allSorted_sorted d seen
    rw [← List.take_append_drop k (allSorted d seen)] at hs
    exact (List.pairwise_append.mp hs).2.2 r hr m hm

#print axioms result_closest
end Nd
