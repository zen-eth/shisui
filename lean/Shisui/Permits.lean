/-! C16: transfer slots as a counter with idempotent release, under any interleaving of acquisitions, exits (each with the
    `releases` flag read off the code's exit table) and repeated `Release()` calls. The pool only sees which permits were
    released, so everything is proved about the list of released flags (`flags`). -/
namespace Pm

structure Offer where
  released : Bool
  done : Bool
deriving DecidableEq, Repr

structure Sys where
  avail : Nat
  offers : List Offer

inductive Step where
  | acquire                              -- TryAcquire(1): a new offer if a slot is free
  | exit (i : Nat) (releases : Bool)     -- offer i leaves through an exit that does / does not call Release
  | again (i : Nat)                      -- Release() called once more (defer + explicit call)

def holding (l : List Offer) : Nat := l.countP (fun o => !o.released)

def releaseAt (l : List Offer) (i : Nat) : List Offer × Bool :=
  match l[i]? with
  | some o => if o.released then (l, false) else (l.set i { o with released := true }, true)
  | none => (l, false)

def markDone (l : List Offer) (i : Nat) : List Offer :=
  match l[i]? with | some o => l.set i { o with done := true } | none => l

def step (s : Sys) : Step → Sys
  | .acquire => if s.avail > 0 then { avail := s.avail - 1, offers := s.offers ++ [⟨false, false⟩] } else s
  | .exit i rel =>
    if rel then
      { avail := if (releaseAt s.offers i).2 then s.avail + 1 else s.avail,
        offers := markDone (releaseAt s.offers i).1 i }
    else { s with offers := markDone s.offers i }
  | .again i =>
    { avail := if (releaseAt s.offers i).2 then s.avail + 1 else s.avail, offers := (releaseAt s.offers i).1 }

def Inv (limit : Nat) (s : Sys) : Prop := s.avail + holding s.offers = limit

def run (limit : Nat) (steps : List Step) : Sys := steps.foldl step { avail := limit, offers := [] }

def isReleased (s : Sys) (i : Nat) : Bool := match s.offers[i]? with | some o => o.released | none => false

/-- a step that calls Release on offer `i` -/
def callsRelease (i : Nat) : Step → Bool
  | .exit j true => j == i
  | .again j => j == i
  | _ => false

/-- all the pool sees of the offers: `done` plays no part (`flags_markDone`), a step appends a flag that is down or raises one
    (`step_view`) -/
def flags (l : List Offer) : List Bool := l.map (·.released)

theorem holding_eq (l : List Offer) : holding l = (flags l).count false := by
  simp [holding, flags, List.count_eq_countP, List.countP_map, Function.comp_def]

theorem length_flags (l : List Offer) : (flags l).length = l.length := List.length_map ..

theorem getElem?_flags (l : List Offer) (i : Nat) : (flags l)[i]? = l[i]?.map (·.released) := List.getElem?_map ..

theorem isReleased_iff (s : Sys) (j : Nat) : isReleased s j = true ↔ (flags s.offers)[j]? = some true := by
  unfold isReleased
  rw [getElem?_flags]
  cases s.offers[j]? <;> simp

theorem held_iff (s : Sys) (i : Nat) :
    (flags s.offers)[i]? = some false ↔ i < s.offers.length ∧ isReleased s i = false := by
  unfold isReleased
  rw [getElem?_flags]
  cases h : s.offers[i]? with
  | none => simpa using List.getElem?_eq_none_iff.mp h
  | some o => simpa using fun _ => (List.getElem?_eq_some_iff.mp h).1

theorem flags_markDone (l : List Offer) (i : Nat) : flags (markDone l i) = flags l := by
  unfold markDone; split
  · next o h =>
    obtain ⟨hi, rfl⟩ := List.getElem?_eq_some_iff.mp h
    rw [flags, List.map_set, ← List.getElem_map Offer.released (h := by simpa using hi), List.set_getElem_self]; rfl
  · rfl

theorem releaseAt_held {l : List Offer} {i : Nat} (h : (flags l)[i]? = some false) :
    (releaseAt l i).2 = true ∧ flags (releaseAt l i).1 = (flags l).set i true := by
  rw [getElem?_flags] at h; unfold releaseAt
  cases ho : l[i]? with
  | none => simp [ho] at h
  | some o => have : o.released = false := by simpa [ho] using h
              simp [this, flags, List.map_set]

theorem releaseAt_idle {l : List Offer} {i : Nat} (h : (flags l)[i]? ≠ some false) : releaseAt l i = (l, false) := by
  rw [getElem?_flags] at h; unfold releaseAt
  cases ho : l[i]? with
  | none => rfl
  | some o => have : o.released = true := by simpa [ho] using h
              simp [this]

/-- a `Release()` call on permit `i`, from an exit or repeated: if the flag is down a slot comes back and the flag goes up,
    otherwise nothing changes -/
theorem step_release (s : Sys) (st : Step) (i : Nat) (hc : callsRelease i st = true) :
    if (flags s.offers)[i]? = some false
    then (step s st).avail = s.avail + 1 ∧ flags (step s st).offers = (flags s.offers).set i true
    else (step s st).avail = s.avail ∧ flags (step s st).offers = flags s.offers := by
  -- to the pool an exit that releases is the repeated call
  have hst : (step s st).avail = (step s (.again i)).avail ∧
      flags (step s st).offers = flags (step s (.again i)).offers := by
    match st with
    | .exit j true => cases beq_iff_eq.mp hc; exact ⟨rfl, flags_markDone ..⟩
    | .again j => cases beq_iff_eq.mp hc; exact ⟨rfl, rfl⟩
  rw [hst.1, hst.2]
  split
  · next h => exact ⟨if_pos (releaseAt_held h).1, (releaseAt_held h).2⟩
  · next h => simp [step, releaseAt_idle h]

/-- all a step can do to free slots and flags: nothing, take a slot and append a flag that is down, or give a slot back and
    raise a flag that was down -/
theorem step_view {P : Nat → List Bool → Prop} (s : Sys) (st : Step) (same : P s.avail (flags s.offers))
    (acquire : 0 < s.avail → P (s.avail - 1) (flags s.offers ++ [false]))
    (release : ∀ i, (flags s.offers)[i]? = some false → P (s.avail + 1) ((flags s.offers).set i true)) :
    P (step s st).avail (flags (step s st).offers) := by
  have call (i : Nat) (hc : callsRelease i st = true) : P (step s st).avail (flags (step s st).offers) := by
    have := step_release s st i hc
    split at this <;> rw [this.1, this.2]
    · exact release i ‹_›
    · exact same
  cases st with
  | acquire =>
    by_cases h : 0 < s.avail
    · rw [step, if_pos h, flags, List.map_append]; exact acquire h
    · rw [step, if_neg h]; exact same
  | exit i rel =>
    cases rel
    · show P s.avail (flags (markDone s.offers i))
      rw [flags_markDone]; exact same
    · exact call i (beq_self_eq_true i)
  | again i => exact call i (beq_self_eq_true i)

theorem count_false_set_true {l : List Bool} {i : Nat} (h : l[i]? = some false) :
    (l.set i true).count false + 1 = l.count false := by
  obtain ⟨hi, e⟩ := List.getElem?_eq_some_iff.mp h
  rw [List.count_set hi, e]
  exact Nat.sub_add_cancel (List.count_pos_iff.mpr (List.mem_of_getElem? h))

/-- C16: in every reachable state, slots in use + slots free = the configured limit (so never more
    than the limit in use), whatever the interleaving and however often Release is repeated -/
theorem inv_step (limit : Nat) (s : Sys) (st : Step) (h : Inv limit s) : Inv limit (step s st) := by
  unfold Inv at *
  rw [holding_eq] at h ⊢
  refine step_view (P := fun a fl => a + fl.count false = limit) s st h (fun hpos => ?_) (fun i hi => ?_)
  · rw [List.count_append, List.count_singleton_self, Nat.add_comm _ 1, ← Nat.add_assoc, Nat.sub_add_cancel hpos]; exact h
  · rw [Nat.add_assoc, Nat.add_comm 1, count_false_set_true hi]; exact h

theorem inv_reachable (limit : Nat) (steps : List Step) :
    Inv limit (steps.foldl step { avail := limit, offers := [] }) :=
  List.foldlRecOn steps step (Nat.add_zero limit) fun s h st _ => inv_step limit s st h

theorem held_le_limit (limit : Nat) (steps : List Step) :
    holding (steps.foldl step { avail := limit, offers := [] }).offers ≤ limit :=
  Nat.le.intro ((Nat.add_comm ..).trans (inv_reachable limit steps))

/-- once every offer has released (which is what "every exit of the table releases" gives),
    the full number of slots is available again -/
theorem quiescent_full (limit : Nat) (steps : List Step)
    (h : ∀ o ∈ (steps.foldl step { avail := limit, offers := [] }).offers, o.released = true) :
    (steps.foldl step { avail := limit, offers := [] }).avail = limit := by
  have := inv_reachable limit steps
  rwa [Inv, holding, List.countP_eq_zero.mpr (by simpa using h)] at this

theorem step_length_ge (s : Sys) (st : Step) : s.offers.length ≤ (step s st).offers.length := by
  rw [← length_flags, ← length_flags]
  exact step_view (P := fun _ fl => (flags s.offers).length ≤ fl.length) s st (Nat.le_refl _)
    (fun _ => by simp) (fun _ _ => by simp)

theorem released_mono (s : Sys) (st : Step) (j : Nat) (h : isReleased s j = true) : isReleased (step s st) j = true := by
  rw [isReleased_iff] at h ⊢
  refine step_view (P := fun _ fl => fl[j]? = some true) s st h (fun _ => ?_) (fun i hi => ?_)
  · rw [List.getElem?_append_left (List.getElem?_eq_some_iff.mp h).1]; exact h
  · rw [List.getElem?_set_ne (by rintro rfl; simp [h] at hi)]; exact h

theorem call_marks (s : Sys) (st : Step) (i : Nat) (hi : i < s.offers.length) (hc : callsRelease i st = true) :
    isReleased (step s st) i = true := by
  rw [← length_flags] at hi
  have := step_release s st i hc
  rw [isReleased_iff]
  split at this <;> rw [this.2]
  · exact List.getElem?_set_self hi
  · next h =>
    rw [List.getElem?_eq_getElem hi] at h ⊢
    exact congrArg some (eq_true_of_ne_false fun e => h (congrArg some e))

/-- the first `Release()` call on a held permit returns the slot, every further call on the same permit changes nothing -/
theorem releases_return_once (s : Sys) (i : Nat) (sts : List Step) (hc : ∀ st ∈ sts, callsRelease i st = true)
    (hne : sts ≠ []) (hi : i < s.offers.length) (hheld : isReleased s i = false) :
    (sts.foldl step s).avail = s.avail + 1 := by
  have hheld := (held_iff s i).mpr ⟨hi, hheld⟩
  obtain ⟨st, rest, rfl⟩ := List.exists_cons_of_ne_nil hne
  have h1 := step_release s st i (hc st (List.mem_cons_self ..))
  rw [if_pos hheld] at h1
  refine (List.foldlRecOn rest step (motive := fun t => t.avail = s.avail + 1 ∧ (flags t.offers)[i]? = some true)
    ⟨h1.1, h1.2 ▸ List.getElem?_set_self (List.getElem?_eq_some_iff.mp hheld).1⟩ fun t ht st hst => ?_).1
  have := step_release t st i (hc st (List.mem_cons_of_mem _ hst))
  rw [if_neg (by simp [ht.2])] at this
  exact ⟨this.1.trans ht.1, this.2 ▸ ht.2⟩

#print axioms held_le_limit
#print axioms quiescent_full
end Pm
