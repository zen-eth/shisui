import Shisui.Ssz.Wire
/-! # C14: the schemas of shisui's wire messages, ping payloads and content containers

Transcribed from the struct tags and the `MarshalSSZTo` / `UnmarshalSSZ` bodies
(portalwire/types.go, types_encoding.go; portalwire/ping_ext/types.go, basic.go; types/history/*;
history/types*.go; types/beacon/types_encoding.go). Encoder limits and decoder limits are listed
separately where the code has them separately. `big` stands for "the encoder has no check". -/
namespace Wire.Schemas
open Wire

def big : Nat := 2 ^ 32

/-! ## portalwire -/
def ping : Ty := .cont [.uint 8, .uint 2, .var (.bytes 1100 1100)]
def pong : Ty := .cont [.uint 8, .uint 2, .var (.bytes 1100 1100)]
def findNodes : Ty := .cont [.var (.vec 2 256 256)]
def nodes : Ty := .cont [.uint 1, .var (.dyn 32 2048 32 2048)]
def findContent : Ty := .cont [.var (.bytes 2048 2048)]
def content : Ty := .bare (.bytes 2048 2048) 0
def connectionId : Ty := .cont [.fix 2]
def enrs : Ty := .bare (.dyn 32 2048 32 2048) 0
def offer : Ty := .cont [.var (.dyn 64 2048 64 2048)]
/-- the encoder bounds the bit list by 64 BYTES, the decoder by 64 BITS (`ValidateBitlist(buf, 64)`) -/
def accept : Ty := .cont [.fix 2, .var (.bits 64 64)]
def acceptV1 : Ty := .cont [.fix 2, .var (.vec 1 64 64)]

/-! ## ping extensions (ztyp; the encoders have no limit checks) -/
def clientInfo : Ty := .zcont [.var (.bytes big 200), .fix 32, .var (.vec 2 big 400)]
def basicRadius : Ty := .zcont [.fix 32]
def historyRadius : Ty := .zcont [.fix 32, .uint 2]
def errorPayload : Ty := .zcont [.uint 2, .var (.bytes big 300)]
def capabilities : Ty := .zbare (.vec 2 big 400)

/-! ## types/history -/
def proofHashesAccumulator : Ty := .cont [.fvec 15 32]
def proofHistoricalRoots : Ty := .cont [.fvec 14 32, .fix 32, .fvec 11 32, .uint 8]
def proofSummariesCapella : Ty := .cont [.fvec 13 32, .fix 32, .fvec 11 32, .uint 8]
def proofSummariesDeneb : Ty := .cont [.fvec 13 32, .fix 32, .fvec 12 32, .uint 8]
def blockHeaderWithProof : Ty := .cont [.var (.bytes 8192 8192), .var (.bytes 1024 1024)]
def findContentEphemeralKey : Ty := .cont [.fix 32, .uint 1]
/-- `guard = true`: the tree as found, `UnmarshalSSZ` started with `if size < 4 { return ErrSize }` (so did
    `PortalReceipts`); repaired by 308affd (`size != 0 && size < 4`), which is `guard = false` -/
def ephemeralHeaderPayload (guard : Bool) : Ty := .bare (.dyn 256 2048 256 2048) (if guard then 4 else 0)
def offerEphemeralKey : Ty := .cont [.fix 32]
def offerEphemeralHeader : Ty := .cont [.var (.bytes 2048 2048)]

/-! ## history -/
def headerRecord : Ty := .cont [.fix 32, .fix 32]
def epochAccumulator : Ty := .cont [.fvec 8192 64]
def blockBodyLegacy : Ty := .cont [.var (.dyn 16384 16777216 16384 16777216), .var (.bytes 131072 131072)]
def blockBodyShanghai : Ty :=
  .cont [.var (.dyn 16384 16777216 16384 16777216), .var (.bytes 131072 131072), .var (.dyn 16 192 16 192)]
def sszProof : Ty := .cont [.fix 32, .var (.vec 32 65536 65536)]
def masterAccumulator : Ty := .cont [.var (.vec 32 1897 1897)]
def portalReceipts (guard : Bool) : Ty := .bare (.dyn 16384 134217728 16384 134217728) (if guard then 4 else 0)

/-! ## types/beacon content keys -/
def lcUpdateKey : Ty := .cont [.uint 8, .uint 8]
def lcBootstrapKey : Ty := .cont [.fix 32]
def lcFinalityKey : Ty := .cont [.uint 8]
def lcOptimisticKey : Ty := .cont [.uint 8]
def summariesKey : Ty := .zcont [.uint 8]

/-! ## state (ztyp; the encoders have no limit checks) -/
def nibbles : Ty := .zbare (.nibbles 64)
def accountTrieNodeKey : Ty := .zcont [.var (.nibbles 64), .fix 32]
def contractStorageTrieNodeKey : Ty := .zcont [.fix 32, .var (.nibbles 64), .fix 32]
def contractBytecodeKey : Ty := .zcont [.fix 32, .fix 32]
def encodedTrieNode : Ty := .zbare (.bytes big 1024)
def trieNode : Ty := .zcont [.var (.bytes big 1024)]
def trieProof : Ty := .zbare (.dyn big big 65 1024)
def contractByteCode : Ty := .zbare (.bytes big 32768)
def contractBytecodeContainer : Ty := .zcont [.var (.bytes big 32768)]
def accountTrieNodeWithProof : Ty := .zcont [.var (.dyn big big 65 1024), .fix 32]
def contractStorageTrieNodeWithProof : Ty :=
  .zcont [.var (.dyn big big 65 1024), .var (.dyn big big 65 1024), .fix 32]
def contractBytecodeWithProof : Ty := .zcont [.var (.bytes big 32768), .var (.dyn big big 65 1024), .fix 32]

/-- name used on the harness lines → schema. `guard`: the `size < 4` guard of the two bare lists. -/
def byName (guard : Bool) : String → Option Ty
  | "Ping" => some ping
  | "Pong" => some pong
  | "FindNodes" => some findNodes
  | "Nodes" => some nodes
  | "FindContent" => some findContent
  | "Content" => some content
  | "ConnectionId" => some connectionId
  | "Enrs" => some enrs
  | "Offer" => some offer
  | "Accept" => some accept
  | "AcceptV1" => some acceptV1
  | "pe.ClientInfo" => some clientInfo
  | "pe.BasicRadius" => some basicRadius
  | "pe.HistoryRadius" => some historyRadius
  | "pe.Error" => some errorPayload
  | "pe.Capabilities" => some capabilities
  | "th.ProofHashesAccumulator" => some proofHashesAccumulator
  | "th.ProofHistoricalRoots" => some proofHistoricalRoots
  | "th.ProofSummariesCapella" => some proofSummariesCapella
  | "th.ProofSummariesDeneb" => some proofSummariesDeneb
  | "th.BlockHeaderWithProof" => some blockHeaderWithProof
  | "th.FindContentEphemeralKey" => some findContentEphemeralKey
  | "th.EphemeralHeaderPayload" => some (ephemeralHeaderPayload guard)
  | "th.OfferEphemeralKey" => some offerEphemeralKey
  | "th.OfferEphemeralHeader" => some offerEphemeralHeader
  | "h.HeaderRecord" => some headerRecord
  | "h.EpochAccumulator" => some epochAccumulator
  | "h.BlockBodyLegacy" => some blockBodyLegacy
  | "h.BlockBodyShanghai" => some blockBodyShanghai
  | "h.BlockHeaderWithProof" => some blockHeaderWithProof
  | "h.SSZProof" => some sszProof
  | "h.MasterAccumulator" => some masterAccumulator
  | "h.PortalReceipts" => some (portalReceipts guard)
  | "b.LcUpdateKey" => some lcUpdateKey
  | "b.LcBootstrapKey" => some lcBootstrapKey
  | "b.LcFinalityKey" => some lcFinalityKey
  | "b.LcOptimisticKey" => some lcOptimisticKey
  | "b.SummariesKey" => some summariesKey
  | "s.Nibbles" => some nibbles
  | "s.AccountTrieNodeKey" => some accountTrieNodeKey
  | "s.ContractStorageTrieNodeKey" => some contractStorageTrieNodeKey
  | "s.ContractBytecodeKey" => some contractBytecodeKey
  | "s.EncodedTrieNode" => some encodedTrieNode
  | "s.TrieNode" => some trieNode
  | "s.TrieProof" => some trieProof
  | "s.ContractByteCode" => some contractByteCode
  | "s.ContractBytecodeContainer" => some contractBytecodeContainer
  | "s.AccountTrieNodeWithProof" => some accountTrieNodeWithProof
  | "s.ContractStorageTrieNodeWithProof" => some contractStorageTrieNodeWithProof
  | "s.ContractBytecodeWithProof" => some contractBytecodeWithProof
  | _ => none

/-- every schema of the table (for the finite consistency check) -/
def all (guard : Bool) : List Ty :=
  [ping, pong, findNodes, nodes, findContent, content, connectionId, enrs, offer, accept, acceptV1,
   clientInfo, basicRadius, historyRadius, errorPayload, capabilities,
   proofHashesAccumulator, proofHistoricalRoots, proofSummariesCapella, proofSummariesDeneb,
   blockHeaderWithProof, findContentEphemeralKey, ephemeralHeaderPayload guard, offerEphemeralKey,
   offerEphemeralHeader, headerRecord, epochAccumulator, blockBodyLegacy, blockBodyShanghai, sszProof,
   masterAccumulator, portalReceipts guard, lcUpdateKey, lcBootstrapKey, lcFinalityKey, lcOptimisticKey,
   summariesKey, nibbles, accountTrieNodeKey, contractStorageTrieNodeKey, contractBytecodeKey, encodedTrieNode,
   trieNode, trieProof, contractByteCode, contractBytecodeContainer, accountTrieNodeWithProof,
   contractStorageTrieNodeWithProof, contractBytecodeWithProof]

end Wire.Schemas
