import Shisui.Bitlist
import Shisui.Ssz.Wire
/-! # C14: the field codecs (little-endian integers, chunking, the offset-table list with its switch, bit lists,
packed nibbles)

For bit lists the encoder is go-bitfield's (`Bl.encode`), the decoder's check fastssz `ValidateBitlist` (`validBits`). -/
namespace Wire
open Sz

theorem leBytes_length (n v : Nat) : (leBytes n v).length = n := by
  induction n generalizing v with
  | zero => rfl
  | succ n ih => simp [leBytes, ih]

theorem leNat_leBytes (n v : Nat) (h : v < 256 ^ n) : leNat (leBytes n v) = v := by
  induction n generalizing v with
  | zero =>
    obtain rfl : v = 0 := Nat.lt_one_iff.1 h
    rfl
  | succ n ih =>
    rw [leBytes, leNat, ih _ (Nat.div_lt_of_lt_mul (by rwa [Nat.pow_succ, Nat.mul_comm] at h)), Nat.mod_add_div]

theorem leBytes_leNat (b : List Nat) (hb : Bytes b) : leBytes b.length (leNat b) = b := by
  induction b with
  | nil => rfl
  | cons x r ih =>
    obtain ⟨hx, hr⟩ := List.forall_mem_cons.1 hb
    rw [List.length_cons, leBytes, leNat, (digit x _ hx).1, (digit x _ hx).2, ih hr]

theorem leNat_lt (b : List Nat) (hb : Bytes b) : leNat b < 256 ^ b.length := by
  induction b with
  | nil => simp [leNat]
  | cons x r ih =>
    obtain ⟨hx, hr⟩ := List.forall_mem_cons.1 hb
    rw [List.length_cons, leNat, Nat.pow_succ]
    calc x + 256 * leNat r < 256 + 256 * leNat r := Nat.add_lt_add_right hx _
      _ = 256 * (leNat r + 1) := by rw [Nat.mul_succ, Nat.add_comm]
      _ ≤ 256 * 256 ^ r.length := Nat.mul_le_mul_left 256 (ih hr)
      _ = 256 ^ r.length * 256 := Nat.mul_comm ..

theorem leBytes_bytes (n v : Nat) : Bytes (leBytes n v) := by
  induction n generalizing v with
  | zero => nofun
  | succ n ih => exact List.forall_mem_cons.2 ⟨Nat.mod_lt _ (by decide), ih _⟩

theorem allLen_iff (xs : List (List Nat)) (n : Nat) : allLen xs n = true ↔ ∀ x ∈ xs, x.length = n := by
  simp [allLen]

theorem allLe_iff (xs : List (List Nat)) (n : Nat) : allLe xs n = true ↔ ∀ x ∈ xs, x.length ≤ n := by
  simp [allLe]

theorem chunks_length (k n : Nat) (b : List Nat) : (chunks k n b).length = n := by
  induction n generalizing b with
  | zero => rfl
  | succ n ih => simp [chunks, ih]

theorem chunks_flatten (k : Nat) (xs : List (List Nat)) (h : ∀ x ∈ xs, x.length = k) :
    chunks k xs.length xs.flatten = xs := by
  induction xs with
  | nil => rfl
  | cons x r ih =>
    obtain ⟨rfl, hr⟩ := List.forall_mem_cons.1 h
    rw [List.length_cons, List.flatten_cons, chunks, List.take_left, List.drop_left, ih hr]

theorem flatten_length_const (xs : List (List Nat)) (k : Nat) (h : ∀ x ∈ xs, x.length = k) :
    xs.flatten.length = xs.length * k := by
  induction xs with
  | nil => simp
  | cons x r ih =>
    obtain ⟨rfl, hr⟩ := List.forall_mem_cons.1 h
    rw [List.flatten_cons, List.length_append, List.length_cons, ih hr, Nat.succ_mul, Nat.add_comm]

theorem chunks_sound (k n : Nat) (b : List Nat) (h : b.length = n * k) :
    (∀ x ∈ chunks k n b, x.length = k) ∧ (chunks k n b).flatten = b := by
  induction n generalizing b with
  | zero => exact ⟨nofun, (List.eq_nil_of_length_eq_zero (by simpa using h)).symm⟩
  | succ n ih =>
    rw [Nat.succ_mul] at h
    obtain ⟨h1, h2⟩ := ih (b.drop k) (by rw [List.length_drop, h, Nat.add_sub_cancel])
    rw [chunks, List.flatten_cons, h2, List.take_append_drop]
    have hk : (b.take k).length = k := List.length_take_of_le (h ▸ Nat.le_add_left ..)
    exact ⟨List.forall_mem_cons.2 ⟨hk, h1⟩, rfl⟩

theorem decodeDynQ_eq_some {zt : Bool} {maxN : Nat} {buf : List Nat} {xs : List (List Nat)} :
    decodeDynQ zt maxN buf = some xs ↔ decodeDyn maxN buf = some xs ∧ (xs = [] → zt = true ∨ buf = []) := by
  unfold decodeDynQ
  split
  · cases xs <;> cases zt <;> simp [*]
  · next hne => exact ⟨fun h => ⟨h, fun hx => absurd (hx ▸ h) hne⟩, (·.1)⟩

theorem decodeDynQ_encodeDyn (zt : Bool) (maxN : Nat) (items : List (List Nat))
    (hsz : (encodeDyn items).length < 2 ^ 32) :
    decodeDynQ zt maxN (encodeDyn items) = if items.length ≤ maxN then some items else none := by
  have hd := decodeDyn_encodeDyn maxN items hsz
  split
  · next hle => exact decodeDynQ_eq_some.2 ⟨hd.trans (if_pos hle), fun h => .inr (h ▸ rfl)⟩
  · next hle => rw [decodeDynQ, hd, if_neg hle]

theorem decodeDynQ_sound {zt : Bool} {maxN : Nat} {buf : List Nat} {xs : List (List Nat)}
    (h : decodeDynQ zt maxN buf = some xs) :
    xs.length ≤ maxN ∧ (zt = false → Bytes buf → encodeDyn xs = buf) := by
  obtain ⟨hd, he⟩ := decodeDynQ_eq_some.1 h
  refine ⟨(decodeDyn_sound hd).1, fun hz hb => ?_⟩
  cases xs with
  | nil =>
    rcases he rfl with h | rfl
    · rw [hz] at h; cases h
    · rfl
  | cons x r => exact (decodeDyn_sound hd).2 nofun hb

/-- the deviation, exactly: with the switch on, the only extra acceptance is a non-empty buffer decoded as `[]` -/
theorem decodeDynQ_quirk (maxN : Nat) (buf : List Nat) (xs : List (List Nat))
    (h : decodeDynQ true maxN buf = some xs) : decodeDynQ false maxN buf = some xs ∨ (xs = [] ∧ buf ≠ []) := by
  obtain ⟨hd, -⟩ := decodeDynQ_eq_some.1 h
  by_cases hx : xs = [] ∧ buf ≠ []
  · exact .inr hx
  · exact .inl (decodeDynQ_eq_some.2 ⟨hd, fun h => .inr (Decidable.not_not.1 fun hb => hx ⟨h, hb⟩)⟩)

theorem decodeDynQ_mono (zt : Bool) {maxN : Nat} {buf : List Nat} {xs : List (List Nat)}
    (h : decodeDynQ false maxN buf = some xs) : decodeDynQ zt maxN buf = some xs :=
  let ⟨hd, he⟩ := decodeDynQ_eq_some.1 h
  decodeDynQ_eq_some.2 ⟨hd, fun hx => .inr ((he hx).resolve_left nofun)⟩

theorem validBits_len {db : Nat} {b : List Nat} : validBits db b = true → b.length ≤ db / 8 + 1 := by
  fun_cases validBits db b
  case case1 => nofun   -- the empty buffer
  case case2 =>
    intro h
    simp only [Bool.and_eq_true, decide_eq_true_eq] at h
    obtain ⟨⟨hlen, -⟩, -⟩ := h
    exact hlen

theorem bitLen_pos (f x : Nat) (h : x ≠ 0) : bitLen (f + 1) x = bitLen f (x / 2) + 1 := by
  rw [bitLen, if_neg h, Nat.add_comm]

theorem bitLen_range (n : Nat) : ∀ (f x : Nat), n < f → 2 ^ n ≤ x → x < 2 ^ (n + 1) → bitLen f x = n + 1 := by
  induction n with
  | zero =>
    intro f x hf h1 h2
    obtain ⟨f, rfl⟩ := Nat.exists_eq_succ_of_ne_zero (Nat.ne_of_gt hf)
    obtain rfl : x = 1 := Nat.le_antisymm (Nat.le_of_lt_succ h2) h1
    cases f <;> rfl
  | succ n ih =>
    intro f x hf h1 h2
    obtain ⟨f, rfl⟩ := Nat.exists_eq_succ_of_ne_zero (Nat.ne_of_gt (Nat.zero_lt_of_lt hf))
    rw [Nat.pow_succ] at h1 h2
    have hx : x ≠ 0 := Nat.ne_of_gt (Nat.lt_of_lt_of_le (Nat.mul_pos (Nat.two_pow_pos n) (by decide)) h1)
    rw [bitLen_pos f x hx, ih f (x / 2) (Nat.lt_of_succ_lt_succ hf) ((Nat.le_div_iff_mul_le (by decide)).2 h1)
      (Nat.div_lt_of_lt_mul (by rwa [Nat.mul_comm]))]

/-- The byte-count guard of `ValidateBitlist` follows from its bit-count guard: what is checked is a non-zero last
    byte and `Len() ≤ maxBits`. -/
theorem validBits_eq (m : Nat) (b : List Nat) (last : Nat) (h : b.getLast? = some last) :
    validBits m b = (decide (last ≠ 0) && decide (8 * (b.length - 1) + bitLen 8 last - 1 ≤ m)) := by
  rw [validBits, h]
  simp only [Bool.and_assoc, Bool.and_eq_right_iff_imp, Bool.and_eq_true, decide_eq_true_eq]
  intro ⟨hl, hm⟩
  rw [bitLen_pos 7 _ hl, ← Nat.add_assoc, Nat.add_sub_cancel] at hm
  have h8 : 8 * (b.length - 1) ≤ m := Nat.le_trans (Nat.le_add_right ..) hm
  exact Nat.le_add_of_sub_le ((Nat.le_div_iff_mul_le (by decide)).2 (Nat.mul_comm 8 _ ▸ h8))

theorem validBits_single (m n x : Nat) (hn : n < 8) (h1 : 2 ^ n ≤ x) (h2 : x < 2 ^ (n + 1)) :
    validBits m [x] = decide (n ≤ m) := by
  have hx : x ≠ 0 := Nat.ne_of_gt (Nat.lt_of_lt_of_le (Nat.two_pow_pos n) h1)
  rw [validBits_eq m [x] x rfl, bitLen_range n 8 x hn h1 h2, decide_eq_true hx]
  simp

theorem decide_add_le (x k m : Nat) : decide (x + k ≤ m) = (decide (k ≤ m) && decide (x ≤ m - k)) := by
  rw [← Bool.decide_and]
  exact decide_eq_decide.2
    ⟨fun h => have hk := Nat.le_trans (Nat.le_add_left k x) h; ⟨hk, (Nat.le_sub_iff_add_le hk).2 h⟩,
     fun ⟨hk, h⟩ => (Nat.le_sub_iff_add_le hk).1 h⟩

/-- A byte in front adds 8 to `Len()`. -/
theorem validBits_cons (m b : Nat) (bs : List Nat) (hne : bs ≠ []) :
    validBits m (b :: bs) = (decide (8 ≤ m) && validBits (m - 8) bs) := by
  obtain ⟨last, hl⟩ : ∃ last, bs.getLast? = some last := ⟨bs.getLast hne, List.getLast?_eq_some_getLast hne⟩
  obtain ⟨k, hk⟩ := Nat.exists_eq_succ_of_ne_zero (Nat.ne_of_gt (List.length_pos_iff.2 hne))
  rw [validBits_eq _ _ last (by rw [List.getLast?_cons, hl]; rfl), validBits_eq _ _ last hl, List.length_cons, hk,
    Bool.and_left_comm, ← decide_add_le]
  by_cases h0 : last = 0
  · simp only [h0, ne_eq, not_true_eq_false, decide_false, Bool.false_and]
  · rw [bitLen_pos 7 _ h0]
    simp only [Nat.succ_eq_add_one, Nat.add_sub_cancel, ← Nat.add_assoc]
    rw [Nat.mul_succ, Nat.add_right_comm]

/-- the bit list of ACCEPT: go-bitfield's image of `bits` passes `ValidateBitlist(·, m)` exactly when `bits` has at
    most `m` entries (m = 64: at most 64 verdicts, one per offered key) -/
theorem validBits_image (bits : List Bool) (m : Nat) : validBits m (Bl.encode bits) = decide (bits.length ≤ m) := by
  by_cases hl : bits.length < 8
  · have := Bl.packBits_lt bits
    rw [Bl.encode_short bits hl, Bl.packBits_append, show Bl.packBits [true] = 1 from rfl, Nat.mul_one]
    exact validBits_single m bits.length _ hl (Nat.le_add_left ..)
      (by rw [Nat.pow_succ, Nat.mul_two]; exact Nat.add_lt_add_right this _)
  · have hc : (bits.take 8).length = 8 := List.length_take_of_le (Nat.not_lt.1 hl)
    have ih := validBits_image (bits.drop 8) (m - 8)
    rw [← List.take_append_drop 8 bits, Bl.encode_chunk _ _ hc, validBits_cons _ _ _ (Bl.encode_ne_nil _), ih,
      List.take_append_drop, List.length_drop, ← decide_add_le, Nat.sub_add_cancel (Nat.not_lt.1 hl)]
termination_by bits.length
decreasing_by rw [List.length_drop]; omega

theorem allNib_iff (ns : List Nat) : allNib ns = true ↔ ∀ n ∈ ns, n < 16 := by
  simp [allNib]

theorem unpackNibbles_cons (b : Nat) (r : List Nat) :
    unpackNibbles (b :: r) = b / 16 :: b % 16 :: unpackNibbles r := rfl

theorem unpack_packPairs : ∀ (ns : List Nat), (∀ n ∈ ns, n < 16) → ns.length % 2 = 0 →
    unpackNibbles (packPairs ns) = ns
  | [], _, _ => rfl
  | [_], _, h => by cases h
  | a :: b :: r, hn, hl => by
    obtain ⟨ha, hn⟩ := List.forall_mem_cons.1 hn
    obtain ⟨hb, hn⟩ := List.forall_mem_cons.1 hn
    rw [packPairs, unpackNibbles_cons, unpack_packPairs r hn ((Nat.add_mod_right ..).symm.trans hl), Nat.mul_comm,
      Nat.mul_add_div (by decide), Nat.div_eq_of_lt hb, Nat.mul_add_mod, Nat.mod_eq_of_lt hb, Nat.add_zero]

theorem unpack_length (bs : List Nat) : (unpackNibbles bs).length = 2 * bs.length := by
  induction bs with
  | nil => rfl
  | cons b r ih => rw [unpackNibbles_cons, List.length_cons, List.length_cons, ih, List.length_cons, Nat.mul_succ]

theorem unpack_nib (bs : List Nat) (hb : Bytes bs) : ∀ n ∈ unpackNibbles bs, n < 16 := by
  induction bs with
  | nil => nofun
  | cons b r ih =>
    obtain ⟨hb, hr⟩ := List.forall_mem_cons.1 hb
    exact List.forall_mem_cons.2 ⟨Nat.div_lt_of_lt_mul hb,
      List.forall_mem_cons.2 ⟨Nat.mod_lt _ (by decide), ih hr⟩⟩

theorem packPairs_unpack (bs : List Nat) : packPairs (unpackNibbles bs) = bs := by
  induction bs with
  | nil => rfl
  | cons b r ih => rw [unpackNibbles_cons, packPairs, ih, Nat.div_add_mod']

theorem packPairs_length : ∀ (ns : List Nat), (packPairs ns).length = ns.length / 2
  | [] => rfl
  | [_] => by simp [packPairs]
  | _ :: _ :: r => by
    rw [packPairs, List.length_cons, packPairs_length r]
    exact (Nat.add_div_right _ (by decide)).symm

theorem encNibbles_even {ns : List Nat} (h : ns.length % 2 = 0) : encNibbles ns = 0 :: packPairs ns :=
  if_pos h

theorem encNibbles_odd (n0 : Nat) {r : List Nat} (h : r.length % 2 = 0) :
    encNibbles (n0 :: r) = (16 + n0) :: packPairs r :=
  if_neg (by rw [List.length_cons, Nat.add_mod, h]; decide)

/-- the two forms of an encoding: flag `0x00` and the pairs, or flag `0x10 | n0` for an odd count and the other pairs -/
theorem encNibbles_cases (ns : List Nat) : ns.length % 2 = 0 ∧ encNibbles ns = 0 :: packPairs ns ∨
    ∃ n0 r, ns = n0 :: r ∧ r.length % 2 = 0 ∧ encNibbles ns = (16 + n0) :: packPairs r := by
  by_cases h : ns.length % 2 = 0
  · exact .inl ⟨h, encNibbles_even h⟩
  · cases ns with
    | nil => exact absurd rfl h
    | cons n0 r =>
      have hr : r.length % 2 = 0 := (Nat.mod_two_eq_zero_or_one r.length).resolve_right fun h1 =>
        h (by rw [List.length_cons, Nat.add_mod, h1])
      exact .inr ⟨n0, r, rfl, hr, encNibbles_odd n0 hr⟩

theorem encNibbles_length (ns : List Nat) : (encNibbles ns).length = ns.length / 2 + 1 := by
  rcases encNibbles_cases ns with ⟨_, e⟩ | ⟨n0, r, rfl, h, e⟩
  · rw [e, List.length_cons, packPairs_length]
  · rw [e, List.length_cons, packPairs_length, List.length_cons, Nat.succ_div_of_not_dvd (by rw [Nat.dvd_iff_mod_eq_zero, Nat.add_mod, h]; decide)]

theorem decNibbles_encNibbles (m : Nat) (ns : List Nat) (hn : ∀ n ∈ ns, n < 16) :
    decNibbles m (encNibbles ns) = if ns.length ≤ m then some ns else none := by
  rcases encNibbles_cases ns with ⟨h, e⟩ | ⟨n0, r, rfl, h, e⟩
  · rw [e, decNibbles, unpack_packPairs ns hn h]; rfl
  · obtain ⟨h0, hr⟩ := List.forall_mem_cons.1 hn
    rw [e, decNibbles, unpack_packPairs r hr h, Nat.add_mod_left, Nat.mod_eq_of_lt h0,
      Nat.add_div_left _ (by decide), Nat.div_eq_of_lt h0]
    rfl

theorem decNibbles_sound (m : Nat) (raw ns : List Nat) (hb : Bytes raw) : decNibbles m raw = some ns →
    ns.length ≤ m ∧ (∀ n ∈ ns, n < 16) ∧ encNibbles ns = raw := by
  fun_cases decNibbles m raw
  case case3 b rest h0 hz hle =>   -- flag byte `0x00`, count within `m`
    intro h
    cases h
    have hdm := Nat.div_add_mod b 16
    rw [h0, Decidable.not_not.1 hz] at hdm
    exact ⟨hle, unpack_nib rest (List.forall_mem_cons.1 hb).2,
      by rw [encNibbles_even (unpack_length rest ▸ Nat.mul_mod_right ..), packPairs_unpack, ← hdm]⟩
  case case5 b rest _ h1 hle =>   -- flag byte `0x1n`, count within `m`
    intro h
    cases h
    have hdm := Nat.div_add_mod b 16
    rw [h1] at hdm
    exact ⟨hle, List.forall_mem_cons.2 ⟨Nat.mod_lt _ (by decide), unpack_nib rest (List.forall_mem_cons.1 hb).2⟩,
      by rw [encNibbles_odd _ (unpack_length rest ▸ Nat.mul_mod_right ..), packPairs_unpack, hdm]⟩
  all_goals nofun

end Wire
