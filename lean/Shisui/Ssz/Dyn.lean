/-! The SSZ "list of variable-size byte strings" codec (fastssz DecodeDynamicLength + UnmarshalDynamic), the
    bottom layer of `Wire`. Bytes are `Nat`s (< 256 is a separate well-formedness fact, `Sz.Bytes`).

    For the codec and for each of its parts there are two statements, named alike in all SSZ files: decoder after
    encoder (`rd32_u32le`, `decodeDyn_encodeDyn`, `decSlot_raw`) is what the decoder does on an encoding, exactly;
    `_sound` is what it accepts at all (which, on bytes, re-encodes to the input). -/
namespace Sz

def Bytes (l : List Nat) : Prop := ∀ x ∈ l, x < 256

def u32le (n : Nat) : List Nat := [n % 256, n / 256 % 256, n / 65536 % 256, n / 16777216 % 256]

def rd32 : List Nat → Option (Nat × List Nat)
  | a :: b :: c :: d :: rest => some (a + 256 * b + 65536 * c + 16777216 * d, rest)
  | _ => none

/-- `u32le` with the divisions nested, as digit-by-digit arguments want them -/
theorem u32le_eq (n : Nat) : u32le n = [n % 256, n / 256 % 256, n / 256 / 256 % 256, n / 256 / 256 / 256 % 256] := by
  rw [Nat.div_div_eq_div_mul, Nat.div_div_eq_div_mul]; rfl

theorem u32le_length (n : Nat) : (u32le n).length = 4 := rfl

/-- `rd32` with the multiplications nested -/
theorem rd32_cons (a b c d : Nat) (rest : List Nat) :
    rd32 (a :: b :: c :: d :: rest) = some (a + 256 * (b + 256 * (c + 256 * d)), rest) := by
  rw [rd32]
  simp only [Nat.mul_add, ← Nat.mul_assoc, ← Nat.add_assoc]

theorem digit (a q : Nat) (h : a < 256) : (a + 256 * q) % 256 = a ∧ (a + 256 * q) / 256 = q := by
  rw [Nat.add_mul_mod_self_left, Nat.mod_eq_of_lt h, Nat.add_mul_div_left _ _ (by decide : 0 < 256),
    Nat.div_eq_of_lt h, Nat.zero_add]; exact ⟨rfl, rfl⟩

theorem rd32_u32le (n : Nat) (rest : List Nat) (h : n < 2 ^ 32) : rd32 (u32le n ++ rest) = some (n, rest) := by
  have h3 : n / 256 / 256 / 256 % 256 = n / 256 / 256 / 256 := by
    rw [Nat.div_div_eq_div_mul, Nat.div_div_eq_div_mul]; exact Nat.mod_eq_of_lt (Nat.div_lt_of_lt_mul h)
  rw [u32le_eq, h3]
  show rd32 (_ :: _ :: _ :: _ :: rest) = _
  rw [rd32_cons, Nat.mod_add_div, Nat.mod_add_div, Nat.mod_add_div]

theorem u32le_rd32 (a b c d : Nat) (ha : a < 256) (hb : b < 256) (hc : c < 256) (hd : d < 256) :
    u32le (a + 256 * (b + 256 * (c + 256 * d))) = [a, b, c, d] := by
  rw [u32le_eq, (digit a _ ha).1, (digit a _ ha).2, (digit b _ hb).1, (digit b _ hb).2, (digit c _ hc).1,
    (digit c _ hc).2, Nat.mod_eq_of_lt hd]

theorem rd32_sound (buf : List Nat) (o : Nat) (rest : List Nat) (hbuf : Bytes buf) (h : rd32 buf = some (o, rest)) :
    u32le o ++ rest = buf ∧ Bytes rest := by
  match buf, h with
  | a :: b :: c :: d :: r, h =>
    rw [rd32_cons] at h
    obtain ⟨rfl, rfl⟩ := Prod.mk.inj (Option.some.inj h)
    obtain ⟨ha, hbcd⟩ := List.forall_mem_cons.1 hbuf
    obtain ⟨hb, hcd⟩ := List.forall_mem_cons.1 hbcd
    obtain ⟨hc, hdr⟩ := List.forall_mem_cons.1 hcd
    obtain ⟨hd, hr⟩ := List.forall_mem_cons.1 hdr
    exact ⟨by rw [u32le_rd32 a b c d ha hb hc hd]; rfl, hr⟩

/-- offsets of consecutive items starting at `start` -/
def offsetsOf (start : Nat) : List (List Nat) → List Nat
  | [] => []
  | x :: xs => start :: offsetsOf (start + x.length) xs

def total (items : List (List Nat)) : Nat := items.flatten.length

theorem total_cons (x : List Nat) (xs : List (List Nat)) : total (x :: xs) = x.length + total xs := by
  simp [total]

theorem mem_le_total {vars : List (List Nat)} {y : List Nat} (h : y ∈ vars) : y.length ≤ total vars := by
  induction vars with
  | nil => cases h
  | cons a r ih =>
    rw [total_cons]
    rcases List.mem_cons.1 h with rfl | h'
    · exact Nat.le_add_right ..
    · exact Nat.le_trans (ih h') (Nat.le_add_left ..)

theorem total_le (xs : List (List Nat)) (m : Nat) (h : ∀ x ∈ xs, x.length ≤ m) : total xs ≤ xs.length * m := by
  induction xs with
  | nil => exact Nat.zero_le _
  | cons x r ih =>
    obtain ⟨hx, hr⟩ := List.forall_mem_cons.1 h
    rw [total_cons, List.length_cons, Nat.succ_mul, Nat.add_comm]
    exact Nat.add_le_add (ih hr) hx

theorem offsetsOf_length (s : Nat) (items : List (List Nat)) : (offsetsOf s items).length = items.length := by
  induction items generalizing s with
  | nil => rfl
  | cons x xs ih => simp [offsetsOf, ih]

theorem offsetsOf_le (s : Nat) (items : List (List Nat)) : ∀ o ∈ offsetsOf s items, o ≤ s + total items := by
  induction items generalizing s with
  | nil => simp [offsetsOf]
  | cons x xs ih =>
    intro o ho
    rw [total_cons, ← Nat.add_assoc]
    rcases List.mem_cons.1 ho with rfl | ho
    · exact Nat.le_trans (Nat.le_add_right ..) (Nat.le_add_right ..)
    · exact ih _ o ho

/-- the first offset is the start; `s + total items`, the end, stands in when there is no item -/
theorem offsetsOf_headD (s : Nat) (items : List (List Nat)) : (offsetsOf s items).headD (s + total items) = s := by
  cases items <;> rfl

theorem table_length (offs : List Nat) : (offs.flatMap u32le).length = 4 * offs.length := by
  induction offs with
  | nil => rfl
  | cons o os ih =>
    rw [List.flatMap_cons, List.length_append, ih, u32le_length, List.length_cons, Nat.mul_succ, Nat.add_comm]

/-- read `n` consecutive little-endian u32 values -/
def readN : Nat → List Nat → Option (List Nat)
  | 0, _ => some []
  | n + 1, buf =>
    match rd32 buf with
    | none => none
    | some (o, rest) => (readN n rest).map (o :: ·)

theorem readN_table (offs : List Nat) (rest : List Nat) (h : ∀ o ∈ offs, o < 2 ^ 32) :
    readN offs.length (offs.flatMap u32le ++ rest) = some offs := by
  induction offs with
  | nil => rfl
  | cons o os ih =>
    simp only [List.length_cons, List.flatMap_cons, List.append_assoc, readN]
    rw [rd32_u32le o _ (h o (List.mem_cons_self ..))]
    simp only [ih (fun o' ho' => h o' (List.mem_cons_of_mem _ ho')), Option.map_some]

theorem readN_succ {n : Nat} {buf offs : List Nat} (h : readN (n + 1) buf = some offs) :
    ∃ o rest os, rd32 buf = some (o, rest) ∧ readN n rest = some os ∧ offs = o :: os := by
  rw [readN] at h
  cases hr : rd32 buf with
  | none => rw [hr] at h; cases h
  | some p =>
    rw [hr] at h
    obtain ⟨os, hos, rfl⟩ := Option.map_eq_some_iff.1 h
    exact ⟨p.1, p.2, os, rfl, hos, rfl⟩

theorem readN_sound {n : Nat} {buf offs : List Nat} (h : readN n buf = some offs) :
    offs.length = n ∧ (Bytes buf → ∃ tail, buf = offs.flatMap u32le ++ tail) := by
  induction n generalizing buf offs with
  | zero => cases h; exact ⟨rfl, fun _ => ⟨buf, rfl⟩⟩
  | succ n ih =>
    obtain ⟨o, rest, os, hr, hn, rfl⟩ := readN_succ h
    obtain ⟨hl, hc⟩ := ih hn
    refine ⟨congrArg (· + 1) hl, fun hb => ?_⟩
    obtain ⟨hcan, hbr⟩ := rd32_sound buf o rest hb hr
    obtain ⟨tail, ht⟩ := hc hbr
    exact ⟨tail, by rw [List.flatMap_cons, List.append_assoc, ← ht, hcan]⟩

/-- slice `src` at consecutive offsets; the last item ends at `size` -/
def cut (src : List Nat) (size : Nat) : List Nat → Option (List (List Nat))
  | [] => some []
  | [o] => if o ≤ size then some [(src.drop o).take (size - o)] else none
  | o :: o' :: rest =>
    if o ≤ o' ∧ o' ≤ size then (cut src size (o' :: rest)).map ((src.drop o).take (o' - o) :: ·) else none

/-- `cut` in one equation: an item ends where the next one starts, the last one at `size` -/
theorem cut_cons (src : List Nat) (size o : Nat) (offs : List Nat) : cut src size (o :: offs) =
    if o ≤ offs.headD size ∧ offs.headD size ≤ size then
      (cut src size offs).map ((src.drop o).take (offs.headD size - o) :: ·) else none := by
  cases offs with
  | nil => simp [cut]
  | cons o' rest => rfl

theorem cut_length {src : List Nat} {size : Nat} {offs : List Nat} {vs : List (List Nat)}
    (h : cut src size offs = some vs) : vs.length = offs.length := by
  induction offs generalizing vs with
  | nil => cases h; rfl
  | cons o offs ih =>
    rw [cut_cons] at h
    obtain ⟨vs', hrec, rfl⟩ := Option.map_eq_some_iff.1 (Option.ite_none_right_eq_some.1 h).2
    rw [List.length_cons, ih hrec, List.length_cons]

theorem cut_offsetsOf (pre : List Nat) (items : List (List Nat)) (s : Nat) (hs : s = pre.length) :
    cut (pre ++ items.flatten) (pre ++ items.flatten).length (offsetsOf s items) = some items := by
  suffices ∀ size, size = s + total items → cut (pre ++ items.flatten) size (offsetsOf s items) = some items from
    this _ (by rw [List.length_append, hs]; rfl)
  induction items generalizing pre s with
  | nil => intros; rfl
  | cons x xs ih =>
    intro size hsize
    rw [total_cons, ← Nat.add_assoc] at hsize
    have ih := ih (pre ++ x) (s + x.length) (by rw [List.length_append, hs]) size hsize
    rw [List.append_assoc, ← List.flatten_cons] at ih
    rw [offsetsOf, cut_cons, ih, hsize, offsetsOf_headD, if_pos ⟨Nat.le_add_right .., Nat.le_add_right ..⟩,
      Nat.add_sub_cancel_left, hs, List.drop_left, List.flatten_cons, List.take_left]
    rfl

/-- What `cut` returns is a partition of the source from the first offset to `size`, and the offsets are the running
    lengths of the parts. With no offset at all the "first offset" is `size`. -/
theorem cut_sound {src : List Nat} {size : Nat} (hsz : size ≤ src.length) {offs : List Nat} {vs : List (List Nat)}
    (h : cut src size offs = some vs) :
    offs = offsetsOf (offs.headD size) vs ∧ vs.flatten = (src.drop (offs.headD size)).take (size - offs.headD size) ∧
      offs.headD size ≤ size := by
  induction offs generalizing vs with
  | nil => cases h; simp [offsetsOf]
  | cons o offs ih =>
    rw [cut_cons] at h
    obtain ⟨hle, h⟩ := Option.ite_none_right_eq_some.1 h
    obtain ⟨vs', hrec, rfl⟩ := Option.map_eq_some_iff.1 h
    obtain ⟨ihoffs, ihflat, -⟩ := ih hrec
    generalize offs.headD size = nxt at *
    have hl : ((src.drop o).take (nxt - o)).length = nxt - o := by
      rw [List.length_take, List.length_drop]
      exact Nat.min_eq_left (Nat.sub_le_sub_right (Nat.le_trans hle.2 hsz) o)
    refine ⟨?_, ?_, Nat.le_trans hle.1 hle.2⟩
    · rw [List.headD_cons, offsetsOf, hl, Nat.add_sub_cancel' hle.1, ← ihoffs]
    · have e1 : src.drop nxt = (src.drop o).drop (nxt - o) := by rw [List.drop_drop, Nat.add_sub_cancel' hle.1]
      have e2 : size - o = (nxt - o) + (size - nxt) := by rw [Nat.add_comm, Nat.sub_add_sub_cancel hle.2 hle.1]
      rw [List.headD_cons, List.flatten_cons, ihflat, e1, e2, List.take_add]

/-- the converse of `cut_offsetsOf` -/
theorem cut_sound_append (pre tail : List Nat) (o : Nat) (rest : List Nat) (vs : List (List Nat)) (ho : pre.length = o)
    (h : cut (pre ++ tail) (pre ++ tail).length (o :: rest) = some vs) :
    o :: rest = offsetsOf o vs ∧ vs.flatten = tail := by
  obtain ⟨hoffs, hflat, -⟩ := cut_sound (Nat.le_refl _) h
  rw [List.headD_cons] at hoffs hflat
  rw [List.drop_left' ho, List.take_of_length_le (by
    rw [List.length_append, ho, Nat.add_sub_cancel_left]; exact Nat.le_refl _)] at hflat
  exact ⟨hoffs, hflat⟩

def encodeDyn (items : List (List Nat)) : List Nat :=
  (offsetsOf (4 * items.length) items).flatMap u32le ++ items.flatten

/-- as implemented today: a 4-byte buffer whose first offset is 0 is accepted as the empty list -/
def decodeDyn (maxN : Nat) (buf : List Nat) : Option (List (List Nat)) :=
  if buf = [] then some [] else
  match rd32 buf with
  | none => none
  | some (o0, _) =>
    if o0 % 4 ≠ 0 then none
    else if o0 / 4 > maxN then none
    else if o0 / 4 = 0 then (if buf.length = 4 then some [] else none)
    else match readN (o0 / 4) buf with
      | none => none
      | some offs => cut buf buf.length offs

#eval encodeDyn [[1,2,3],[],[9]]
#eval decodeDyn 64 (encodeDyn [[1,2,3],[],[9]])
#eval decodeDyn 64 [0,0,0,0]          -- the non-canonical hole
#eval decodeDyn 64 (encodeDyn [])

theorem encodeDyn_length (items : List (List Nat)) : (encodeDyn items).length = 4 * items.length + total items := by
  rw [encodeDyn, List.length_append, table_length, offsetsOf_length]; rfl

theorem decodeDyn_encodeDyn (maxN : Nat) (items : List (List Nat)) (hsz : (encodeDyn items).length < 2 ^ 32) :
    decodeDyn maxN (encodeDyn items) = if items.length ≤ maxN then some items else none := by
  by_cases hnil : items = []
  · subst hnil; rfl
  · -- every offset fits four bytes: the table of `n` offsets reads back (`readN_table`), its first entry is `4 * n`
    have hoffs : ∀ o ∈ offsetsOf (4 * items.length) items, o < 2 ^ 32 := fun o ho =>
      Nat.lt_of_le_of_lt (offsetsOf_le _ _ o ho) (encodeDyn_length items ▸ hsz)
    have hr : readN items.length (encodeDyn items) = some (offsetsOf (4 * items.length) items) := by
      have := readN_table _ items.flatten hoffs
      rwa [offsetsOf_length] at this
    obtain ⟨tl, hfirst⟩ : ∃ tl, rd32 (encodeDyn items) = some (4 * items.length, tl) := by
      obtain ⟨x, xs, hi⟩ := List.exists_cons_of_ne_nil hnil
      rw [encodeDyn, hi, offsetsOf, List.flatMap_cons, List.append_assoc, ← hi]
      exact ⟨_, rd32_u32le _ _ (hoffs _ (by rw [hi]; exact List.mem_cons_self ..))⟩
    have hne : encodeDyn items ≠ [] := fun h => by rw [h] at hfirst; cases hfirst
    -- the guards of `decodeDyn` on `o0 = 4 * n`, `n ≠ 0`: what is left is the test `n ≤ maxN`
    rw [decodeDyn, if_neg hne, hfirst]
    simp only [Nat.mul_mod_right, Nat.mul_div_cancel_left _ (by decide : 0 < 4), ne_eq, not_true_eq_false, if_false,
      List.length_eq_zero_iff, hnil, gt_iff_lt, ← Nat.not_le]
    by_cases hle : items.length ≤ maxN
    · -- cutting the encoding at its own offsets returns the items
      rw [if_neg (not_not_intro hle), if_pos hle, hr]
      exact cut_offsetsOf _ _ _ (by rw [table_length, offsetsOf_length])
    · rw [if_pos hle, if_neg hle]

theorem decode_encode (maxN : Nat) (items : List (List Nat))
    (hn : items.length ≤ maxN) (hsz : 4 * items.length + total items < 2 ^ 32) :
    decodeDyn maxN (encodeDyn items) = some items := by
  rw [decodeDyn_encodeDyn maxN items (encodeDyn_length items ▸ hsz), if_pos hn]

/-- how `decodeDyn` accepts: the empty list (from the empty buffer, or from fastssz's `00000000`), or a table of
    `o0 / 4 ≤ maxN` offsets beginning with `o0`, at which the buffer is cut -/
theorem decodeDyn_some {maxN : Nat} {buf : List Nat} {xs : List (List Nat)} : decodeDyn maxN buf = some xs →
    xs = [] ∨ ∃ o0 os, o0 % 4 = 0 ∧ o0 / 4 ≤ maxN ∧ readN (o0 / 4) buf = some (o0 :: os) ∧
      cut buf buf.length (o0 :: os) = some xs := by
  fun_cases decodeDyn maxN buf
  case case1 | case5 => exact fun h => .inl (Option.some.inj h).symm   -- the empty buffer | `o0 / 4 = 0` and 4 bytes
  case case8 o0 _ hr hmod hmax hz offs hro =>   -- the last leaf: the table is read and the buffer cut
    intro h
    obtain ⟨n, hn⟩ := Nat.exists_eq_succ_of_ne_zero hz
    obtain ⟨o, _, os, hr', -, rfl⟩ := readN_succ (hn ▸ hro)
    cases hr.symm.trans hr'
    exact .inr ⟨o0, os, Decidable.not_not.1 hmod, Nat.le_of_not_gt hmax, hro, h⟩
  all_goals nofun

theorem decodeDyn_sound {maxN : Nat} {buf : List Nat} {xs : List (List Nat)} (h : decodeDyn maxN buf = some xs) :
    xs.length ≤ maxN ∧ (xs ≠ [] → Bytes buf → encodeDyn xs = buf) := by
  rcases decodeDyn_some h with rfl | ⟨o0, os, hmod, hmax, hro, hcut⟩
  · exact ⟨Nat.zero_le _, fun h => absurd rfl h⟩
  · obtain ⟨hlen, hcan⟩ := readN_sound hro
    have hx : xs.length = o0 / 4 := (cut_length hcut).trans hlen
    refine ⟨hx ▸ hmax, fun _ hb => ?_⟩
    obtain ⟨tail, rfl⟩ := hcan hb
    have h4 : 4 * (o0 / 4) = o0 := Nat.mul_div_cancel' (Nat.dvd_of_mod_eq_zero hmod)
    obtain ⟨hoffs, hflat⟩ := cut_sound_append _ tail o0 os xs (by rw [table_length, hlen, h4]) hcut
    rw [encodeDyn, hx, h4, ← hoffs, hflat]

#print axioms decode_encode

/-! A sequential evaluation of `cut`, proved equal and handed to the compiler.

`cut` slices the source at every offset with `src.drop o` (quadratic for long lists of short items). The compiled
driver uses `cutSeq`, which walks the source once; `decodeDyn_eq_fast` is a `csimp` lemma, i.e. a proved equation the
compiler may rewrite with. Theorems are stated about `cut` / `decodeDyn`. -/

/-- `rest` is `src.drop o` for the first offset `o` of the list -/
def cutSeq (size : Nat) : List Nat → List Nat → Option (List (List Nat))
  | [], _ => some []
  | [o], rest => if o ≤ size then some [rest.take (size - o)] else none
  | o :: o' :: more, rest =>
    if o ≤ o' ∧ o' ≤ size then
      (cutSeq size (o' :: more) (rest.drop (o' - o))).map (rest.take (o' - o) :: ·)
    else none

theorem cutSeq_cons (size o : Nat) (offs rest : List Nat) : cutSeq size (o :: offs) rest =
    if o ≤ offs.headD size ∧ offs.headD size ≤ size then
      (cutSeq size offs (rest.drop (offs.headD size - o))).map (rest.take (offs.headD size - o) :: ·) else none := by
  cases offs with
  | nil => simp [cutSeq]
  | cons o' more => rfl

/-- `d` is arbitrary (with no offset both sides are `some []`): `decodeDynFast` has `d = 0`, the recursion `d = size` -/
theorem cutSeq_eq (src : List Nat) (size d : Nat) (offs : List Nat) :
    cutSeq size offs (src.drop (offs.headD d)) = cut src size offs := by
  induction offs generalizing d with
  | nil => rfl
  | cons o offs ih =>
    rw [cutSeq_cons, cut_cons, List.headD_cons, List.drop_drop, ← ih size]
    split
    · rename_i h; rw [Nat.add_sub_cancel' h.1]
    · rfl

def decodeDynFast (maxN : Nat) (buf : List Nat) : Option (List (List Nat)) :=
  if buf = [] then some [] else
  match rd32 buf with
  | none => none
  | some (o0, _) =>
    if o0 % 4 ≠ 0 then none
    else if o0 / 4 > maxN then none
    else if o0 / 4 = 0 then (if buf.length = 4 then some [] else none)
    else match readN (o0 / 4) buf with
      | none => none
      | some offs => cutSeq buf.length offs (buf.drop (offs.headD 0))

@[csimp] theorem decodeDyn_eq_fast : @decodeDyn = @decodeDynFast := by
  funext maxN buf
  unfold decodeDyn decodeDynFast
  simp only [cutSeq_eq _ _ 0]

end Sz
