import Shisui.Ssz.WireField
/-! # C14: one slot, then lists of slots (the container codec `encodeSlots` / `decodeSlots`)

At both levels the same two statements: what the decoder does on an encoding, exactly (`decSlot_raw`,
`decodeSlots_encodeSlots`), and what it accepts at all (`decSlot_sound`, `decodeSlots_sound`). -/
namespace Wire
open Sz

/-! `fun_cases encOk sl x` / `fun_cases inLim sl x` split into the eight (slot, value) pairs of matching kind, in the order
of the definition (`fix`, `uint`, `fvec`, `bytes`, `vec`, `dyn`, `bits`, `nibbles`) and with the predicate unfolded in
the goal, and a ninth case where it is `false`. -/

theorem decSlot_dyn {zt : Bool} {en ei dn di : Nat} {raw : List Nat} : decSlot zt (.var (.dyn en ei dn di)) raw =
    (decodeDynQ zt dn raw).bind fun xs => if allLe xs di then some (.dyn xs) else none := by
  rw [decSlot]; cases decodeDynQ zt dn raw <;> rfl

theorem decSlot_nibbles {zt : Bool} {m : Nat} {raw : List Nat} :
    decSlot zt (.var (.nibbles m)) raw = (decNibbles m raw).map .nibbles := by
  rw [decSlot]; cases decNibbles m raw <;> rfl

theorem decSlot_raw (zt : Bool) {sl : Slot} {x : SVal} (hc : sl.consistent = true)
    (hsz : x.isVar = true → x.raw.length < 2 ^ 32) :
    encOk sl x = true → decSlot zt sl x.raw = if inLim sl x then some x else none := by
  fun_cases encOk sl x
  case case9 => nofun
  case case1 n b => intro h; rw [decSlot, inLim, if_pos h]; rfl
  case case2 n m v =>
    intro h
    rw [decSlot, inLim, if_pos h]
    obtain ⟨rfl, hv⟩ : m = n ∧ v < 256 ^ n := by simpa using h
    rw [SVal.raw, leNat_leBytes m v hv]
  case case3 c s xs =>
    intro h
    rw [decSlot, inLim, if_pos h]
    obtain ⟨rfl, hs⟩ : xs.length = c ∧ _ := by simpa [allLen_iff] using h
    rw [SVal.raw, chunks_flatten s xs hs]
  case case4 em dm b => intro _; by_cases hle : b.length ≤ dm <;> simp [decSlot, inLim, SVal.raw, hle]
  case case5 s em dm xs =>
    intro h
    have hs : ∀ x ∈ xs, x.length = s := (allLen_iff xs s).1 (Bool.and_eq_true_iff.1 h).2
    have hpos : 0 < s := by simp only [Slot.consistent, Bool.and_eq_true, decide_eq_true_eq] at hc; exact hc.1
    by_cases hle : xs.length ≤ dm <;>
      simp [decSlot, inLim, SVal.raw, flatten_length_const xs s hs, Nat.mul_div_cancel _ hpos, chunks_flatten s xs hs,
        (allLen_iff xs s).2 hs, hle]
  case case6 en ei dn di xs =>
    intro _
    by_cases hle : xs.length ≤ dn <;> simp [decSlot, inLim, SVal.raw, decodeDynQ_encodeDyn zt dn xs (hsz rfl), hle]
  case case7 eb db b => intro _; by_cases hv : validBits db b = true <;> simp [decSlot, inLim, SVal.raw, hv]
  case case8 m ns =>
    intro h
    by_cases hle : ns.length ≤ m <;>
      simp [decSlot, inLim, SVal.raw, decNibbles_encNibbles m ns ((allNib_iff ns).1 h), h, hle]

/-- whatever a slot decoder returns is within the declared limits; and it re-encodes to the raw bytes it was read
    from, unless it is a list read by the list decoder with the `00000000` acceptance.
    `hl`: a fixed slot is handed exactly its size (the container layer cuts the fixed part so). -/
theorem decSlot_sound {zt : Bool} {sl : Slot} {raw : List Nat} {x : SVal} (h : decSlot zt sl raw = some x)
    (hl : ∀ n, sl.segS = .fixed n → raw.length = n) (hb : Bytes raw) :
    inLim sl x = true ∧ ((zt = false ∨ sl.noDyn = true) → x.raw = raw) := by
  cases sl with
  | fix n => cases h; exact ⟨decide_eq_true (hl n rfl), fun _ => rfl⟩
  | uint n =>
    cases h
    obtain rfl := hl n rfl
    exact ⟨by simp [inLim, leNat_lt raw hb], fun _ => leBytes_leNat raw hb⟩
  | fvec c s =>
    cases h
    obtain ⟨h1, h2⟩ := chunks_sound s c raw (hl _ rfl)
    exact ⟨by simp [inLim, chunks_length, (allLen_iff _ s).2 h1], fun _ => h2⟩
  | var k =>
    cases k with
    | bytes em dm =>
      obtain ⟨hle, hx⟩ := Option.ite_none_right_eq_some.1 h
      cases hx
      exact ⟨decide_eq_true hle, fun _ => rfl⟩
    | vec s em dm =>
      obtain ⟨hmod, h⟩ := Option.ite_none_left_eq_some.1 h
      obtain ⟨hmax, hx⟩ := Option.ite_none_left_eq_some.1 h
      cases hx
      obtain ⟨h1, h2⟩ := chunks_sound s _ raw
        (Nat.div_mul_cancel (Nat.dvd_of_mod_eq_zero (Decidable.not_not.1 hmod))).symm
      exact ⟨by simp [inLim, chunks_length, (allLen_iff _ s).2 h1, Nat.le_of_not_gt hmax], fun _ => h2⟩
    | dyn en ei dn di =>
      obtain ⟨xs, hd, h⟩ := Option.bind_eq_some_iff.1 (decSlot_dyn ▸ h)
      obtain ⟨hall, hx⟩ := Option.ite_none_right_eq_some.1 h
      cases hx
      obtain ⟨hn, hcan⟩ := decodeDynQ_sound hd
      exact ⟨by simp [inLim, hn, hall], fun hq => hcan (hq.resolve_right nofun) hb⟩
    | bits eb db =>
      obtain ⟨hv, hx⟩ := Option.ite_none_right_eq_some.1 h
      cases hx
      exact ⟨hv, fun _ => rfl⟩
    | nibbles m =>
      obtain ⟨ns, hd, rfl⟩ := Option.map_eq_some_iff.1 (decSlot_nibbles ▸ h)
      obtain ⟨hn, hlt, hcan⟩ := decNibbles_sound m raw ns hb hd
      exact ⟨by simp [inLim, hn, (allNib_iff ns).2 hlt], fun _ => hcan⟩

theorem decSlot_mono (zt : Bool) {sl : Slot} {raw : List Nat} {x : SVal}
    (h : decSlot false sl raw = some x) : decSlot zt sl raw = some x := by
  cases sl with
  | var k =>
    cases k with
    | dyn en ei dn di =>
      obtain ⟨xs, hd, h⟩ := Option.bind_eq_some_iff.1 (decSlot_dyn ▸ h)
      exact decSlot_dyn ▸ Option.bind_eq_some_iff.2 ⟨xs, decodeDynQ_mono zt hd, h⟩
    | _ => exact h
  | _ => exact h

theorem inLim_encOk {sl : Slot} {x : SVal} (hc : sl.consistent = true) : inLim sl x = true → encOk sl x = true := by
  fun_cases inLim sl x
  case case9 => nofun
  case case1 | case2 | case3 => exact id
  all_goals
    simp only [Slot.consistent, encOk, Bool.and_eq_true, decide_eq_true_eq, allLe_iff] at hc ⊢
  case case4 => exact (Nat.le_trans · hc)
  case case5 => exact fun h => ⟨Nat.le_trans h.1 hc.2, h.2⟩
  case case6 => exact fun h => ⟨Nat.le_trans h.1 hc.1, fun y hy => Nat.le_trans (h.2 y hy) hc.2⟩
  case case7 => exact fun h => Nat.le_trans (validBits_len h) hc
  case case8 => exact (·.2)

theorem inLim_shape {sl : Slot} {x : SVal} : inLim sl x = true → shape sl x = true := by
  fun_cases inLim sl x
  case case9 => nofun
  case case2 => exact id
  case case5 | case8 => exact fun h => (Bool.and_eq_true_iff.1 h).2
  all_goals exact fun _ => rfl

theorem inLim_isVar {sl : Slot} {x : SVal} : inLim sl x = true → x.isVar = sl.isVar := by
  fun_cases inLim sl x
  case case9 => nofun
  all_goals exact fun _ => rfl

theorem isVar_segS (sl : Slot) : sl.isVar = decide (sl.segS = .off) := by
  cases sl <;> rfl

/-- a value that passes the encoder's checks fills the slot: same kind, and a fixed slot gets its size -/
theorem encOk_seg {sl : Slot} {x : SVal} : encOk sl x = true → (segOf x).schema = sl.segS := by
  fun_cases encOk sl x
  case case9 => nofun
  case case1 n b => exact fun h => congrArg SegS.fixed (of_decide_eq_true h)
  case case2 n m v =>
    intro h
    obtain ⟨rfl, -⟩ : m = n ∧ _ := by simpa using h
    exact congrArg SegS.fixed (leBytes_length ..)
  case case3 c s xs =>
    intro h
    obtain ⟨rfl, hs⟩ : xs.length = c ∧ _ := by simpa [allLen_iff] using h
    exact congrArg SegS.fixed (flatten_length_const xs s hs)
  all_goals exact fun _ => rfl

theorem inLim_uint {n : Nat} {x : SVal} (h : inLim (.uint n) x = true) : ∃ v, x = .uint n v ∧ v < 256 ^ n := by
  cases x with
  | uint m v =>
    obtain ⟨hm, hv⟩ := Bool.and_eq_true_iff.1 h
    cases of_decide_eq_true hm
    exact ⟨v, rfl, of_decide_eq_true hv⟩
  | _ => cases h

theorem inLim_fix {n : Nat} {x : SVal} (h : inLim (.fix n) x = true) : ∃ b, x = .fix b ∧ b.length = n := by
  cases x with
  | fix b => exact ⟨b, rfl, of_decide_eq_true h⟩
  | _ => cases h

theorem inLim_bytes {e d : Nat} {x : SVal} (h : inLim (.var (.bytes e d)) x = true) :
    ∃ b, x = .bytes b ∧ b.length ≤ d := by
  cases x with
  | bytes b => exact ⟨b, rfl, of_decide_eq_true h⟩
  | _ => cases h

theorem inLim_vec {s e d : Nat} {x : SVal} (h : inLim (.var (.vec s e d)) x = true) :
    ∃ xs, x = .vec xs ∧ xs.length ≤ d ∧ ∀ k ∈ xs, k.length = s := by
  cases x with
  | vec xs =>
    obtain ⟨hn, hs⟩ := Bool.and_eq_true_iff.1 h
    exact ⟨xs, rfl, of_decide_eq_true hn, (allLen_iff xs s).1 hs⟩
  | _ => cases h

theorem inLim_dyn {en ei dn di : Nat} {x : SVal} (h : inLim (.var (.dyn en ei dn di)) x = true) :
    ∃ xs, x = .dyn xs ∧ xs.length ≤ dn ∧ ∀ k ∈ xs, k.length ≤ di := by
  cases x with
  | dyn xs =>
    obtain ⟨hn, hs⟩ := Bool.and_eq_true_iff.1 h
    exact ⟨xs, rfl, of_decide_eq_true hn, (allLe_iff xs di).1 hs⟩
  | _ => cases h

theorem inLim_bits {e d : Nat} {x : SVal} (h : inLim (.var (.bits e d)) x = true) :
    ∃ b, x = .bits b ∧ validBits d b = true := by
  cases x with
  | bits b => exact ⟨b, rfl, h⟩
  | _ => cases h

theorem all2_nil {α β : Type} {p : α → β → Bool} {v : List β} (h : all2 p [] v = true) : v = [] := by
  cases v with
  | nil => rfl
  | cons _ _ => cases h

theorem all2_cons {α β : Type} {p : α → β → Bool} {a : α} {s : List α} {v : List β}
    (h : all2 p (a :: s) v = true) : ∃ x r, v = x :: r ∧ p a x = true ∧ all2 p s r = true := by
  cases v with
  | nil => cases h
  | cons x r => exact ⟨x, r, rfl, Bool.and_eq_true_iff.1 h⟩

theorem all2_one {α β : Type} {p : α → β → Bool} {a : α} {v : List β} (h : all2 p [a] v = true) :
    ∃ x, v = [x] ∧ p a x = true := by
  obtain ⟨x, r, rfl, h1, h2⟩ := all2_cons h
  cases all2_nil h2
  exact ⟨x, rfl, h1⟩

theorem all2_imp {α β : Type} {p q : α → β → Bool} {s : List α} {v : List β}
    (hpq : ∀ a ∈ s, ∀ b, p a b = true → q a b = true) (h : all2 p s v = true) : all2 q s v = true := by
  induction s generalizing v with
  | nil => cases all2_nil h; rfl
  | cons a s ih =>
    obtain ⟨x, r, rfl, h1, h2⟩ := all2_cons h
    obtain ⟨ha, hs⟩ := List.forall_mem_cons.1 hpq
    exact Bool.and_eq_true_iff.2 ⟨ha x h1, ih hs h2⟩

theorem toC_cons (x : SVal) (v : List SVal) : toC (x :: v) =
    ⟨segOf x :: (toC v).segs, if x.isVar then x.raw :: (toC v).vars else (toC v).vars⟩ := by
  cases hx : x.isVar <;> simp [toC, hx]

theorem rawFields_toC (v : List SVal) : rawFields (toC v).segs (toC v).vars = some (v.map SVal.raw) := by
  induction v with
  | nil => rfl
  | cons x r ih => rw [toC_cons]; cases hx : x.isVar <;> simp [segOf, hx, rawFields, ih]

theorem nOff_toC (v : List SVal) : nOff ((toC v).segs.map Seg.schema) = (toC v).vars.length := by
  induction v with
  | nil => rfl
  | cons x r ih => rw [toC_cons]; cases hx : x.isVar <;> simp [segOf, hx, nOff, Seg.schema, ih, Nat.add_comm]

theorem nOff_allFixed {s : List Slot} (hf : allFixed s = true) : nOff (s.map Slot.segS) = 0 := by
  induction s with
  | nil => rfl
  | cons sl r ih =>
    rw [allFixed, List.all_cons, Bool.and_eq_true_iff] at hf
    cases sl with
    | var k => cases hf.1
    | _ => exact ih hf.2

theorem schema_toC {s : List Slot} {v : List SVal} (h : all2 encOk s v = true) :
    (toC v).segs.map Seg.schema = s.map Slot.segS := by
  induction s generalizing v with
  | nil => cases all2_nil h; rfl
  | cons sl s ih =>
    obtain ⟨x, r, rfl, h1, h2⟩ := all2_cons h
    rw [toC_cons, List.map_cons, List.map_cons, encOk_seg h1, ih h2]

theorem encodeSlots_some {s : List Slot} {v : List SVal} {b : List Nat} :
    encodeSlots s v = some b ↔ all2 encOk s v = true ∧ encodeC (toC v) = b := by
  rw [encodeSlots]; split <;> simp [*]

theorem encodeSlots_length {s : List Slot} {v : List SVal} {b : List Nat} (h : encodeSlots s v = some b) :
    b.length = fixedLen (s.map Slot.segS) + total (toC v).vars := by
  obtain ⟨hok, rfl⟩ := encodeSlots_some.1 h
  rw [encodeC_length _ (nOff_toC v), schema_toC hok]

theorem rawFields_cons {sg : Seg} {segs : List Seg} {vars rs : List (List Nat)}
    (h : rawFields (sg :: segs) vars = some rs) :
    ∃ r rs' vars', rs = r :: rs' ∧ rawFields segs vars' = some rs' ∧
      (sg = .fixed r ∧ vars = vars' ∨ sg = .off ∧ vars = r :: vars') := by
  cases sg with
  | fixed b =>
    obtain ⟨rs', h', rfl⟩ := Option.map_eq_some_iff.1 (by rwa [rawFields] at h)
    exact ⟨b, rs', vars, rfl, h', .inl ⟨rfl, rfl⟩⟩
  | off =>
    cases vars with
    | nil => cases h
    | cons y vars' =>
      obtain ⟨rs', h', rfl⟩ := Option.map_eq_some_iff.1 (by rwa [rawFields] at h)
      exact ⟨y, rs', vars', rfl, h', .inr ⟨rfl, rfl⟩⟩

theorem decAll_raw (zt : Bool) {s : List Slot} {v : List SVal} (hc : s.all Slot.consistent = true)
    (hsz : ∀ x ∈ v, x.isVar = true → x.raw.length < 2 ^ 32) (h : all2 encOk s v = true) :
    decAll zt s (v.map SVal.raw) = if all2 inLim s v then some v else none := by
  induction s generalizing v with
  | nil => cases all2_nil h; rfl
  | cons sl s ih =>
    obtain ⟨x, r, rfl, h1, h2⟩ := all2_cons h
    obtain ⟨hx, hr⟩ := List.forall_mem_cons.1 hsz
    obtain ⟨c1, c2⟩ := Bool.and_eq_true_iff.1 (List.all_cons ▸ hc)
    rw [List.map_cons, decAll, decSlot_raw zt c1 hx h1, ih c2 hr h2, all2]
    cases inLim sl x <;> cases all2 inLim s r <;> rfl

theorem decodeSlots_encodeSlots (zt : Bool) {s : List Slot} {v : List SVal} {b : List Nat}
    (hc : s.all Slot.consistent = true) (he : encodeSlots s v = some b) (hsz : b.length < 2 ^ 32) :
    decodeSlots zt s b = if all2 inLim s v then some v else none := by
  rw [encodeSlots_length he] at hsz
  obtain ⟨hok, rfl⟩ := encodeSlots_some.1 he
  have hs := schema_toC hok
  rw [decodeSlots, ← hs, decodeC_encodeC (toC v) (nOff_toC v) (hs ▸ hsz)]
  dsimp only
  rw [rawFields_toC]
  refine decAll_raw zt hc (fun x hx hv => ?_) hok
  have : x.raw ∈ (toC v).vars := List.mem_map_of_mem (List.mem_filter.2 ⟨hx, hv⟩)
  exact Nat.lt_of_le_of_lt (Nat.le_trans (mem_le_total this) (Nat.le_add_left ..)) hsz

/-- the fields of a container laid out along `s`, decoded one by one: the values are within the limits; and where the
    list decoder is the ideal one, or not used, they are the values the container is built from -/
theorem decAll_sound {zt : Bool} {s : List Slot} {segs : List Seg} {vars rs : List (List Nat)} {v : List SVal}
    (hs : segs.map Seg.schema = s.map Slot.segS) (hr : rawFields segs vars = some rs)
    (hd : decAll zt s rs = some v) (hbf : ∀ b, Seg.fixed b ∈ segs → Bytes b) (hbv : ∀ y ∈ vars, Bytes y) :
    all2 inLim s v = true ∧ ((zt = false ∨ s.all Slot.noDyn = true) → toC v = ⟨segs, vars⟩) := by
  fun_induction decAll zt s rs generalizing segs vars v
  case case1 =>   -- no slot, no field
    cases hd
    cases List.map_eq_nil_iff.1 hs
    cases vars with
    | nil => exact ⟨rfl, fun _ => rfl⟩
    | cons _ _ => cases hr
  case case3 sl s r rs x hx ih =>   -- a slot and a field that decodes (case2: does not; case4: lengths differ)
    obtain ⟨v, hv, rfl⟩ := Option.map_eq_some_iff.1 hd
    cases segs with
    | nil => cases hs
    | cons sg segs =>
      obtain ⟨hsg, hs⟩ := List.cons.inj hs
      obtain ⟨_, _, vars', hrs, hr, hfrom⟩ := rawFields_cons hr
      cases hrs
      -- where the field `r` was read from: the segment itself, which has the slot's size, or the next variable field
      obtain ⟨hbr, hlen, hbv'⟩ : Bytes r ∧ (∀ n, sl.segS = .fixed n → r.length = n) ∧ ∀ y ∈ vars', Bytes y := by
        rcases hfrom with ⟨rfl, rfl⟩ | ⟨rfl, rfl⟩
        · exact ⟨hbf r (List.mem_cons_self ..), fun n h => SegS.fixed.inj (hsg.trans h), hbv⟩
        · exact ⟨hbv r (List.mem_cons_self ..), (fun n h => nomatch hsg.trans h), (List.forall_mem_cons.1 hbv).2⟩
      -- this slot by `decSlot_sound`, the others by induction
      obtain ⟨hlim, hraw⟩ := decSlot_sound hx hlen hbr
      obtain ⟨hlims, hrest⟩ := ih hs hr hv (fun b hb => hbf b (List.mem_cons_of_mem _ hb)) hbv'
      refine ⟨Bool.and_eq_true_iff.2 ⟨hlim, hlims⟩, fun hq => ?_⟩
      obtain ⟨hqsl, hqs⟩ : (zt = false ∨ sl.noDyn = true) ∧ (zt = false ∨ s.all Slot.noDyn = true) := by
        rw [List.all_cons, Bool.and_eq_true_iff] at hq
        exact ⟨hq.imp_right (·.1), hq.imp_right (·.2)⟩
      -- the container value is built from `r` again: as its first segment, or as its first variable field
      rw [toC_cons, hrest hqs, segOf, hraw hqsl, inLim_isVar hlim, isVar_segS, ← hsg]
      rcases hfrom with ⟨rfl, rfl⟩ | ⟨rfl, rfl⟩ <;> rfl
  all_goals cases hd

theorem decodeSlots_some {zt : Bool} {s : List Slot} {buf : List Nat} {v : List SVal} :
    decodeSlots zt s buf = some v → ∃ c rs, decodeC (s.map Slot.segS) buf = some c ∧
      rawFields c.segs c.vars = some rs ∧ decAll zt s rs = some v := by
  fun_cases decodeSlots zt s buf
  case case3 c hc rs hr => exact fun h => ⟨c, rs, hc, hr, h⟩   -- the container and its raw fields were read
  all_goals nofun

/-- everything `UnmarshalSSZ` accepts is within the declared limits; and (ideal list decoder, or no list field)
    re-encodes to exactly the input -/
theorem decodeSlots_sound {zt : Bool} {s : List Slot} {buf : List Nat} {v : List SVal} (hb : Bytes buf)
    (h : decodeSlots zt s buf = some v) :
    all2 inLim s v = true ∧
    (s.all Slot.consistent = true → (zt = false ∨ s.all Slot.noDyn = true) → encodeSlots s v = some buf) := by
  obtain ⟨c, rs, hd, hr, ha⟩ := decodeSlots_some h
  obtain ⟨hcan, hsch⟩ := decodeC_canonical _ buf c hb hd
  obtain ⟨hbf, hbv⟩ := bytes_parts (hcan ▸ hb)
  obtain ⟨hlim, hval⟩ := decAll_sound hsch hr ha hbf hbv
  refine ⟨hlim, fun hc hq => encodeSlots_some.2 ⟨?_, hval hq ▸ hcan⟩⟩
  exact all2_imp (fun sl hsl x => inLim_encOk (List.all_eq_true.1 hc sl hsl)) hlim

theorem decAll_mono (zt : Bool) {s : List Slot} {rs : List (List Nat)} {v : List SVal}
    (h : decAll false s rs = some v) : decAll zt s rs = some v := by
  fun_induction decAll false s rs generalizing v
  case case1 => exact h   -- no slot, no field
  case case3 sl s r rs x hx ih =>   -- a slot and a field that decodes
    obtain ⟨v', hv', rfl⟩ := Option.map_eq_some_iff.1 h
    rw [decAll, decSlot_mono zt hx, ih hv']
    rfl
  all_goals cases h

theorem decodeSlots_mono (zt : Bool) {s : List Slot} {buf : List Nat} {v : List SVal}
    (h : decodeSlots false s buf = some v) : decodeSlots zt s buf = some v := by
  obtain ⟨c, rs, hd, hr, ha⟩ := decodeSlots_some h
  rw [decodeSlots, hd]
  dsimp only
  rw [hr]
  exact decAll_mono zt ha

theorem encodeSlots_fixed_length {s : List Slot} {v : List SVal} {b : List Nat} (hf : allFixed s = true)
    (he : encodeSlots s v = some b) : b.length = fixedLen (s.map Slot.segS) := by
  have hv : (toC v).vars = [] := by
    rw [← List.length_eq_zero_iff, ← nOff_toC, schema_toC (encodeSlots_some.1 he).1, nOff_allFixed hf]
  rw [encodeSlots_length he, hv]; rfl

end Wire
