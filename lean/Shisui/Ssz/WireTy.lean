import Shisui.Ssz.WireSlots
/-! # C14: theorems at the level of a whole type (`Wire.Ty`), for every schema and either setting of the switches:
what the decoder does on an encoding, what it accepts at all, that in-limit values encode, and how long the encoding is -/
namespace Wire
open Sz

/-- a ztyp container without variable fields (the shape whose decoder ignores trailing bytes today) -/
def Ty.fixedZ : Ty → Bool
  | .zcont s => allFixed s
  | _ => false

/-- a type decoded with fastssz's offset-table list decoder (the one with the `00000000` acceptance): a hand-edited
    container or bare list with a list-of-byte-strings field. ztyp lists are decoded by other code (no such acceptance). -/
def Ty.fastDyn : Ty → Bool
  | .cont s => !(s.all Slot.noDyn)
  | .bare k _ => !(Slot.var k).noDyn
  | _ => false

/-- the size below which a bare-list decoder refuses outright (0 for every other type) -/
def Ty.guard : Ty → Nat
  | .bare _ g => g
  | _ => 0

theorem inLim_bare (k : FK) (g : Nat) (x : SVal) : (Ty.bare k g).inLim [x] = inLim (.var k) x :=
  Bool.and_true _

theorem consistent_bare {k : FK} {g : Nat} (h : (Ty.bare k g).consistent = true) : (Slot.var k).consistent = true :=
  List.all_eq_true.1 h _ (List.mem_cons_self ..)

theorem encode_bare {k : FK} {g : Nat} {v : List SVal} {b : List Nat} :
    (Ty.bare k g).encode v = some b ↔ ∃ x, v = [x] ∧ encOk (.var k) x = true ∧ x.raw = b := by
  match v with
  | [] | _ :: _ :: _ => simp [Ty.encode]
  | [x] => simp [Ty.encode]

/-- a ztyp bare field is a fastssz bare field without a guard, read by the ideal list decoder -/
theorem encode_zbare (k : FK) (v : List SVal) : (Ty.zbare k).encode v = (Ty.bare k 0).encode v := by
  match v with
  | [] | [_] | _ :: _ :: _ => rfl

theorem decode_zbare (q : Quirks) (k : FK) (b : List Nat) : (Ty.zbare k).decode q b = (Ty.bare k 0).decode ideal b := by
  rw [Ty.decode, Ty.decode, if_neg (Nat.not_lt_zero _)]; rfl

/-- the `trailing` switch does nothing to a buffer of exactly the fixed size -/
theorem decode_zcont {q : Quirks} {s : List Slot} {b : List Nat}
    (h : q.trailing = true → allFixed s = true → b.length = fixedLen (s.map Slot.segS)) :
    (Ty.zcont s).decode q b = decodeSlots false s b := by
  rw [Ty.decode]
  split
  · next hq =>
    have hl := h (Bool.and_eq_true_iff.1 hq).1 (Bool.and_eq_true_iff.1 hq).2
    rw [if_neg (hl ▸ Nat.lt_irrefl _), List.take_of_length_le (Nat.le_of_eq hl)]
  · rfl

theorem ty_decode_encode_bare (q : Quirks) {k : FK} {g : Nat} {v : List SVal} {b : List Nat}
    (hc : (Ty.bare k g).consistent = true) (he : (Ty.bare k g).encode v = some b) (hsz : b.length < 2 ^ 32) :
    (Ty.bare k g).decode q b = if g ≤ b.length then (if (Ty.bare k g).inLim v then some v else none) else none := by
  obtain ⟨x, rfl, hok, rfl⟩ := encode_bare.1 he
  rw [Ty.decode, decSlot_raw q.zeroTail (consistent_bare hc) (fun _ => hsz) hok, inLim_bare]
  by_cases hg : g ≤ x.raw.length
  · rw [if_neg (Nat.not_lt.2 hg), if_pos hg]
    cases inLim (.var k) x <;> rfl
  · rw [if_pos (Nat.lt_of_not_le hg), if_neg hg]

theorem ty_decode_encode (q : Quirks) {t : Ty} {v : List SVal} {b : List Nat} (hc : t.consistent = true)
    (he : t.encode v = some b) (hsz : b.length < 2 ^ 32) :
    t.decode q b = if t.guard ≤ b.length then (if t.inLim v then some v else none) else none := by
  cases t with
  | cont s => exact (decodeSlots_encodeSlots q.zeroTail hc he hsz).trans (if_pos (Nat.zero_le _)).symm
  | zcont s =>
    rw [decode_zcont fun _ hf => encodeSlots_fixed_length hf he]
    exact (decodeSlots_encodeSlots false hc he hsz).trans (if_pos (Nat.zero_le _)).symm
  | bare k g => exact ty_decode_encode_bare q hc he hsz
  | zbare k => rw [decode_zbare]; exact ty_decode_encode_bare ideal hc (encode_zbare k v ▸ he) hsz

theorem ty_decode_sound_bare {q : Quirks} {k : FK} {g : Nat} {b : List Nat} {v : List SVal} (hb : Bytes b)
    (h : (Ty.bare k g).decode q b = some v) :
    (Ty.bare k g).inLim v = true ∧
    ((Ty.bare k g).consistent = true → (q.zeroTail = false ∨ (Ty.bare k g).fastDyn = false) →
      (Ty.bare k g).encode v = some b) := by
  obtain ⟨-, h⟩ := Option.ite_none_left_eq_some.1 h
  obtain ⟨x, hd, rfl⟩ := Option.map_eq_some_iff.1 h
  obtain ⟨hlim, hraw⟩ := decSlot_sound hd nofun hb
  refine ⟨inLim_bare k g x ▸ hlim, fun hc hq => ?_⟩
  refine encode_bare.2 ⟨x, rfl, inLim_encOk (consistent_bare hc) hlim, hraw (hq.imp_right fun h => ?_)⟩
  simpa only [Ty.fastDyn, Bool.not_eq_false'] using h

theorem ty_decode_sound {q : Quirks} {t : Ty} {b : List Nat} {v : List SVal} (hb : Bytes b)
    (h : t.decode q b = some v) :
    t.inLim v = true ∧
    (t.consistent = true → (q.zeroTail = false ∨ t.fastDyn = false) → (q.trailing = false ∨ t.fixedZ = false) →
      t.encode v = some b) := by
  cases t with
  | cont s =>
    obtain ⟨hlim, hcanon⟩ := decodeSlots_sound hb h
    exact ⟨hlim, fun hc hq _ =>
      hcanon hc (hq.imp_right fun h => by simpa only [Ty.fastDyn, Bool.not_eq_false'] using h)⟩
  | zcont s =>
    rw [Ty.decode] at h
    by_cases hq : (q.trailing && allFixed s) = true
    · rw [if_pos hq] at h
      obtain ⟨-, h⟩ := Option.ite_none_left_eq_some.1 h
      refine ⟨(decodeSlots_sound (fun x hx => hb x (List.mem_of_mem_take hx)) h).1, fun _ _ ht => ?_⟩
      rw [Bool.and_eq_true_iff] at hq
      rcases ht with ht | ht
      · rw [hq.1] at ht; cases ht
      · rw [Ty.fixedZ, hq.2] at ht; cases ht
    · rw [if_neg hq] at h
      exact ⟨(decodeSlots_sound hb h).1, fun hc _ _ => (decodeSlots_sound hb h).2 hc (.inl rfl)⟩
  | bare k g => exact ⟨(ty_decode_sound_bare hb h).1, fun hc hq _ => (ty_decode_sound_bare hb h).2 hc hq⟩
  | zbare k =>
    obtain ⟨hlim, hcanon⟩ := ty_decode_sound_bare hb (decode_zbare q k b ▸ h)
    exact ⟨hlim, fun hc _ _ => encode_zbare k v ▸ hcanon hc (.inl rfl)⟩

theorem ty_encode_some_bare {k : FK} (g : Nat) {v : List SVal} (hok : all2 encOk [.var k] v = true) :
    ∃ b, (Ty.bare k g).encode v = some b := by
  obtain ⟨x, rfl, hx⟩ := all2_one hok
  exact ⟨_, encode_bare.2 ⟨x, rfl, hx, rfl⟩⟩

theorem ty_encode_some {t : Ty} {v : List SVal} (hc : t.consistent = true) (hl : t.inLim v = true) :
    ∃ b, t.encode v = some b := by
  have hok : all2 encOk t.slots v = true :=
    all2_imp (fun sl hsl x => inLim_encOk (List.all_eq_true.1 hc sl hsl)) hl
  cases t with
  | cont s | zcont s => exact ⟨_, encodeSlots_some.2 ⟨hok, rfl⟩⟩
  | bare k g => exact ty_encode_some_bare g hok
  | zbare k => exact encode_zbare k v ▸ ty_encode_some_bare 0 hok

/-! The size of the encoding of an in-limit value, bounded from the schema.
With it the side condition "the encoding is shorter than 2^32 bytes" of the round-trip theorem is discharged
for every schema whose bound is below 2^32 (all of the repository's but the three with 16 MiB / 128 MiB items). -/

/-- most bytes an in-limit value of the slot contributes (fixed part + variable part) -/
def Slot.bound : Slot → Nat
  | .fix n => n
  | .uint n => n
  | .fvec c s => c * s
  | .var (.bytes _ dm) => 4 + dm
  | .var (.vec s _ dm) => 4 + dm * s
  | .var (.dyn _ _ dn di) => 4 + (4 * dn + dn * di)
  | .var (.bits _ db) => 4 + (db / 8 + 1)
  | .var (.nibbles m) => 4 + (m / 2 + 1)

def slotsBound : List Slot → Nat
  | [] => 0
  | sl :: s => sl.bound + slotsBound s

def Ty.bound : Ty → Nat
  | .cont s => slotsBound s
  | .zcont s => slotsBound s
  | .bare k _ => (Slot.var k).bound - 4
  | .zbare k => (Slot.var k).bound - 4

/-- a fixed slot contributes its size to the fixed part, a variable slot 4 bytes there and its raw bytes later -/
theorem raw_bound {sl : Slot} {x : SVal} : inLim sl x = true →
    fixedLen [sl.segS] + (if x.isVar then x.raw.length else 0) ≤ sl.bound := by
  fun_cases inLim sl x   -- case numbers: see the note at the head of WireSlots.lean
  case case9 => nofun
  case case1 | case2 | case3 => exact fun _ => Nat.le_refl _
  all_goals
    intro h
    refine Nat.add_le_add_left ?_ 4
  case case4 => exact of_decide_eq_true h
  case case5 s _ dm xs =>
    obtain ⟨hn, hs⟩ := Bool.and_eq_true_iff.1 h
    show xs.flatten.length ≤ _
    rw [flatten_length_const xs s ((allLen_iff xs s).1 hs)]
    exact Nat.mul_le_mul_right s (of_decide_eq_true hn)
  case case6 _ _ dn di xs =>
    obtain ⟨hn, hs⟩ := Bool.and_eq_true_iff.1 h
    have hn : xs.length ≤ dn := of_decide_eq_true hn
    show (encodeDyn xs).length ≤ _
    rw [encodeDyn_length]
    exact Nat.add_le_add (Nat.mul_le_mul_left 4 hn)
      (Nat.le_trans (total_le xs di ((allLe_iff xs di).1 hs)) (Nat.mul_le_mul_right di hn))
  case case7 => exact validBits_len h
  case case8 m ns =>
    show (encNibbles ns).length ≤ _
    rw [encNibbles_length]
    exact Nat.succ_le_succ (Nat.div_le_div_right (of_decide_eq_true (Bool.and_eq_true_iff.1 h).1))

theorem parts_bound {s : List Slot} {v : List SVal} (h : all2 inLim s v = true) :
    fixedLen (s.map Slot.segS) + total (toC v).vars ≤ slotsBound s := by
  induction s generalizing v with
  | nil => cases all2_nil h; exact Nat.le_refl 0
  | cons sl s ih =>
    obtain ⟨x, r, rfl, h1, h2⟩ := all2_cons h
    have ht : total (toC (x :: r)).vars = (if x.isVar then x.raw.length else 0) + total (toC r).vars := by
      rw [toC_cons]
      cases x.isVar <;> simp [total_cons]
    rw [List.map_cons, fixedLen_cons, ht, slotsBound, Nat.add_add_add_comm]
    exact Nat.add_le_add (raw_bound h1) (ih h2)

theorem ty_encode_bound_bare {k : FK} {g : Nat} {v : List SVal} {b : List Nat} (hl : (Ty.bare k g).inLim v = true)
    (he : (Ty.bare k g).encode v = some b) : b.length ≤ (Slot.var k).bound - 4 := by
  obtain ⟨x, rfl, -, rfl⟩ := encode_bare.1 he
  have hx : inLim (.var k) x = true := inLim_bare k g x ▸ hl
  have hb := raw_bound hx
  rw [inLim_isVar hx] at hb
  exact Nat.le_sub_of_add_le' hb

theorem ty_encode_bound {t : Ty} {v : List SVal} {b : List Nat} (hl : t.inLim v = true)
    (he : t.encode v = some b) : b.length ≤ t.bound := by
  cases t with
  | cont s | zcont s => exact encodeSlots_length he ▸ parts_bound hl
  | bare k g => exact ty_encode_bound_bare hl he
  | zbare k => exact ty_encode_bound_bare (g := 0) hl (encode_zbare k v ▸ he)

end Wire
