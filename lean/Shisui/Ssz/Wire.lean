import Shisui.Ssz.Container
/-! # C14 model: schema-driven SSZ codec for the hand-edited fastssz containers and the ztyp payloads

A *type* is a list of slots (fastssz container / ztyp container) or one bare variable-size field.
Fixed slots: raw bytes, little-endian unsigned integers, vectors of fixed-size chunks. Variable slots
(`FK`): byte list, list of fixed-size items (`DivideInt2`), list of byte strings with an offset table
(`DecodeDynamicLength` + `UnmarshalDynamic`, `Sz.decodeDyn`), bit list (`ValidateBitlist`).
Every kind carries the ENCODER's limits and the DECODER's limits separately, as found in the code.

The container layer is `Sz.encodeC` / `Sz.decodeC` (size guard = fixed size, first offset = fixed size,
later offsets monotone and within the buffer). Bytes are `Nat`s; `Sz.Bytes` says "all below 256".

Deviations of the code as it is today are Boolean switches (`Quirks`): all `false` = ideal codec. -/
namespace Wire
open Sz

/-! ## little-endian integers -/

def leBytes : Nat → Nat → List Nat
  | 0, _ => []
  | n + 1, v => v % 256 :: leBytes n (v / 256)

def leNat : List Nat → Nat
  | [] => 0
  | b :: r => b + 256 * leNat r

/-! ## chunks of a fixed size -/

/-- the first `n` chunks of `k` bytes -/
def chunks (k : Nat) : Nat → List Nat → List (List Nat)
  | 0, _ => []
  | n + 1, b => b.take k :: chunks k n (b.drop k)

/-! ## bit lists (fastssz `ValidateBitlist`) -/

/-- `bits.Len8`-style bit length, with fuel -/
def bitLen : Nat → Nat → Nat
  | 0, _ => 0
  | f + 1, x => if x = 0 then 0 else 1 + bitLen f (x / 2)

/-- `ValidateBitlist(buf, maxBits)`: non-empty, at most `maxBits/8 + 1` bytes, last byte non-zero,
    number of bits below the sentinel at most `maxBits` -/
def validBits (maxBits : Nat) (b : List Nat) : Bool :=
  match b.getLast? with
  | none => false
  | some last =>
    decide (b.length ≤ maxBits / 8 + 1) && decide (last ≠ 0) &&
      decide (8 * (b.length - 1) + bitLen 8 last - 1 ≤ maxBits)

/-! ## packed nibble paths (state network `Nibbles`) -/

def packPairs : List Nat → List Nat
  | a :: b :: r => (a * 16 + b) :: packPairs r
  | _ => []

def unpackNibbles (bs : List Nat) : List Nat := bs.flatMap fun b => [b / 16, b % 16]

/-- `Nibbles.Serialize`: a flag byte (0x00 for an even count, 0x10 | first nibble for an odd one), then pairs -/
def encNibbles (ns : List Nat) : List Nat :=
  if ns.length % 2 = 0 then 0 :: packPairs ns
  else match ns with
    | n0 :: r => (16 + n0) :: packPairs r
    | [] => []

/-- `Nibbles.Deserialize` + `FromUnpackedNibbles` -/
def decNibbles (maxN : Nat) : List Nat → Option (List Nat)
  | [] => none
  | b :: rest =>
    if b / 16 = 0 then
      (if b % 16 ≠ 0 then none
       else if (unpackNibbles rest).length ≤ maxN then some (unpackNibbles rest) else none)
    else if b / 16 = 1 then
      (if (b % 16 :: unpackNibbles rest).length ≤ maxN then some (b % 16 :: unpackNibbles rest) else none)
    else none

def allNib (ns : List Nat) : Bool := ns.all fun n => decide (n < 16)

/-! ## the offset-table list with its switch -/

/-- `zt = true`: as implemented (`Sz.decodeDyn`: the 4 bytes `00000000` are accepted as the empty list);
    `zt = false`: ideal — the empty list is decoded from the empty buffer only -/
def decodeDynQ (zt : Bool) (maxN : Nat) (buf : List Nat) : Option (List (List Nat)) :=
  match decodeDyn maxN buf with
  | some [] => if zt || buf.isEmpty then some [] else none
  | r => r

/-! ## schemas and values -/

/-- kind of a variable-size field, with the encoder's and the decoder's limits -/
inductive FK where
  | bytes (encMax decMax : Nat)
  | vec (size encMaxN decMaxN : Nat)
  | dyn (encMaxN encMaxItem decMaxN decMaxItem : Nat)
  | bits (encMaxBytes decMaxBits : Nat)
  | nibbles (maxN : Nat)
deriving DecidableEq, Repr

inductive Slot where
  | fix (n : Nat)                  -- n raw bytes
  | uint (n : Nat)                 -- little-endian unsigned integer of n bytes
  | fvec (count size : Nat)        -- vector of `count` chunks of `size` bytes
  | var (k : FK)                   -- 4-byte offset; the field lives in the variable part
deriving DecidableEq, Repr

inductive SVal where
  | fix (b : List Nat)
  | uint (n v : Nat)
  | fvec (xs : List (List Nat))
  | bytes (b : List Nat)
  | vec (xs : List (List Nat))
  | dyn (xs : List (List Nat))
  | bits (b : List Nat)
  | nibbles (ns : List Nat)
deriving DecidableEq, Repr

/-- the bytes a field contributes (to the fixed part, or to the variable part) -/
def SVal.raw : SVal → List Nat
  | .fix b => b
  | .uint n v => leBytes n v
  | .fvec xs => xs.flatten
  | .bytes b => b
  | .vec xs => xs.flatten
  | .dyn xs => encodeDyn xs
  | .bits b => b
  | .nibbles ns => encNibbles ns

def SVal.isVar : SVal → Bool
  | .fix _ => false
  | .uint _ _ => false
  | .fvec _ => false
  | _ => true

def Slot.isVar : Slot → Bool
  | .var _ => true
  | _ => false

def Slot.segS : Slot → SegS
  | .fix n => .fixed n
  | .uint n => .fixed n
  | .fvec c s => .fixed (c * s)
  | .var _ => .off

def allLen (xs : List (List Nat)) (n : Nat) : Bool := xs.all fun x => decide (x.length = n)
def allLe (xs : List (List Nat)) (n : Nat) : Bool := xs.all fun x => decide (x.length ≤ n)

/-- shape: the value is of the slot's kind (what Go's static types guarantee) -/
def shape : Slot → SVal → Bool
  | .fix _, .fix _ => true
  | .uint n, .uint m v => decide (m = n) && decide (v < 256 ^ n)
  | .fvec _ _, .fvec _ => true
  | .var (.bytes _ _), .bytes _ => true
  | .var (.vec s _ _), .vec xs => allLen xs s
  | .var (.dyn _ _ _ _), .dyn _ => true
  | .var (.bits _ _), .bits _ => true
  | .var (.nibbles _), .nibbles ns => allNib ns
  | _, _ => false

/-- the checks `MarshalSSZTo` makes (`size != N`, `size > MAX`) -/
def encOk : Slot → SVal → Bool
  | .fix n, .fix b => decide (b.length = n)
  | .uint n, .uint m v => decide (m = n) && decide (v < 256 ^ n)
  | .fvec c s, .fvec xs => decide (xs.length = c) && allLen xs s
  | .var (.bytes em _), .bytes b => decide (b.length ≤ em)
  | .var (.vec s em _), .vec xs => decide (xs.length ≤ em) && allLen xs s
  | .var (.dyn en ei _ _), .dyn xs => decide (xs.length ≤ en) && allLe xs ei
  | .var (.bits eb _), .bits b => decide (b.length ≤ eb)
  | .var (.nibbles _), .nibbles ns => allNib ns      -- no check in the code: nibbles are < 16 by construction
  | _, _ => false

/-- "in-limit value": the declared limits, which are the ones `UnmarshalSSZ` enforces -/
def inLim : Slot → SVal → Bool
  | .fix n, .fix b => decide (b.length = n)
  | .uint n, .uint m v => decide (m = n) && decide (v < 256 ^ n)
  | .fvec c s, .fvec xs => decide (xs.length = c) && allLen xs s
  | .var (.bytes _ dm), .bytes b => decide (b.length ≤ dm)
  | .var (.vec s _ dm), .vec xs => decide (xs.length ≤ dm) && allLen xs s
  | .var (.dyn _ _ dn di), .dyn xs => decide (xs.length ≤ dn) && allLe xs di
  | .var (.bits _ db), .bits b => validBits db b
  | .var (.nibbles m), .nibbles ns => decide (ns.length ≤ m) && allNib ns
  | _, _ => false

/-- decoder of one field from its raw bytes -/
def decSlot (zt : Bool) : Slot → List Nat → Option SVal
  | .fix _, raw => some (.fix raw)
  | .uint n, raw => some (.uint n (leNat raw))
  | .fvec c s, raw => some (.fvec (chunks s c raw))
  | .var (.bytes _ dm), raw => if raw.length ≤ dm then some (.bytes raw) else none
  | .var (.vec s _ dm), raw =>
    if raw.length % s ≠ 0 then none
    else if raw.length / s > dm then none
    else some (.vec (chunks s (raw.length / s) raw))
  | .var (.dyn _ _ dn di), raw =>
    match decodeDynQ zt dn raw with
    | none => none
    | some xs => if allLe xs di then some (.dyn xs) else none
  | .var (.bits _ db), raw => if validBits db raw then some (.bits raw) else none
  | .var (.nibbles m), raw =>
    match decNibbles m raw with
    | none => none
    | some ns => some (.nibbles ns)

/-- a slot whose decoder limits are within its encoder limits and whose item size is positive -/
def Slot.consistent : Slot → Bool
  | .var (.bytes em dm) => decide (dm ≤ em)
  | .var (.vec s em dm) => decide (0 < s) && decide (dm ≤ em)
  | .var (.dyn en ei dn di) => decide (dn ≤ en) && decide (di ≤ ei)
  | .var (.bits eb db) => decide (db / 8 + 1 ≤ eb)
  | _ => true

def Slot.noDyn : Slot → Bool
  | .var (.dyn _ _ _ _) => false
  | _ => true

def all2 {α β : Type} (p : α → β → Bool) : List α → List β → Bool
  | [], [] => true
  | a :: as, b :: bs => p a b && all2 p as bs
  | _, _ => false

/-! ## container level -/

def segOf (x : SVal) : Seg := if x.isVar then Seg.off else Seg.fixed x.raw

def toC (v : List SVal) : CVal :=
  { segs := v.map segOf, vars := (v.filter SVal.isVar).map SVal.raw }

/-- `MarshalSSZ` of a container: the per-field checks, then fixed part with offsets, then variable part -/
def encodeSlots (s : List Slot) (v : List SVal) : Option (List Nat) :=
  if all2 encOk s v then some (encodeC (toC v)) else none

/-- raw bytes of every field in slot order -/
def rawFields : List Seg → List (List Nat) → Option (List (List Nat))
  | [], [] => some []
  | [], _ :: _ => none
  | .fixed b :: sg, vs => (rawFields sg vs).map (b :: ·)
  | .off :: sg, x :: vs => (rawFields sg vs).map (x :: ·)
  | .off :: _, [] => none

def decAll (zt : Bool) : List Slot → List (List Nat) → Option (List SVal)
  | [], [] => some []
  | sl :: s, r :: rs =>
    match decSlot zt sl r with
    | none => none
    | some x => (decAll zt s rs).map (x :: ·)
  | _, _ => none

/-- `UnmarshalSSZ` of a container -/
def decodeSlots (zt : Bool) (s : List Slot) (buf : List Nat) : Option (List SVal) :=
  match decodeC (s.map Slot.segS) buf with
  | none => none
  | some c =>
    match rawFields c.segs c.vars with
    | none => none
    | some rs => decAll zt s rs

/-! ## types -/

/-- deviations of today's code; all `false` = ideal -/
structure Quirks where
  zeroTail : Bool := false     -- fastssz `UnmarshalDynamic` accepts the 4 bytes 00000000 as an empty list
  trailing : Bool := false     -- ztyp containers without variable fields ignore bytes after their last field
deriving DecidableEq, Repr

def asImplemented : Quirks := { zeroTail := true, trailing := true }
def ideal : Quirks := {}

inductive Ty where
  | cont (slots : List Slot)          -- hand-edited fastssz container
  | bare (k : FK) (guard : Nat)       -- one variable field is the whole buffer; decoder wants ≥ guard bytes
  | zcont (slots : List Slot)         -- ztyp `Container` / `FixedLenContainer`
  | zbare (k : FK)                    -- one ztyp variable field is the whole buffer (`List`, `ByteList`, `Nibbles`)
deriving DecidableEq, Repr

def Ty.slots : Ty → List Slot
  | .cont s => s
  | .bare k _ => [.var k]
  | .zcont s => s
  | .zbare k => [.var k]

def Ty.encode : Ty → List SVal → Option (List Nat)
  | .cont s, v => encodeSlots s v
  | .zcont s, v => encodeSlots s v
  | .bare k _, [x] => if encOk (.var k) x then some x.raw else none
  | .bare _ _, _ => none
  | .zbare k, [x] => if encOk (.var k) x then some x.raw else none
  | .zbare _, _ => none

def allFixed (s : List Slot) : Bool := s.all fun sl => !sl.isVar

def Ty.decode (q : Quirks) : Ty → List Nat → Option (List SVal)
  | .cont s, buf => decodeSlots q.zeroTail s buf
  | .bare k g, buf => if buf.length < g then none else (decSlot q.zeroTail (.var k) buf).map ([·])
  | .zcont s, buf =>
    if q.trailing && allFixed s then
      (if buf.length < fixedLen (s.map Slot.segS) then none
       else decodeSlots false s (buf.take (fixedLen (s.map Slot.segS))))
    else decodeSlots false s buf
  | .zbare k, buf => (decSlot false (.var k) buf).map ([·])

def Ty.shape (t : Ty) (v : List SVal) : Bool := all2 Wire.shape t.slots v
def Ty.inLim (t : Ty) (v : List SVal) : Bool := all2 Wire.inLim t.slots v
def Ty.consistent (t : Ty) : Bool := t.slots.all Slot.consistent
def Ty.noDyn (t : Ty) : Bool := t.slots.all Slot.noDyn

end Wire
