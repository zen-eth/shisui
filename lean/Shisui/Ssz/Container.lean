import Shisui.Ssz.Dyn
namespace Sz

/-! Generic SSZ container as the hand-edited fastssz code lays it out: a fixed part made of inline
    fixed-size fields and 4-byte offset slots, followed by the variable-size fields back to back. -/

inductive SegS where                 -- schema of one slot of the fixed part
  | fixed (n : Nat)                  -- n bytes inline
  | off                              -- offset of the next variable field
deriving DecidableEq, Repr

inductive Seg where                  -- value of one slot
  | fixed (b : List Nat)
  | off
deriving DecidableEq, Repr

def Seg.schema : Seg → SegS
  | .fixed b => .fixed b.length
  | .off => .off

def fixedLen : List SegS → Nat
  | [] => 0
  | .fixed n :: r => n + fixedLen r
  | .off :: r => 4 + fixedLen r

theorem fixedLen_cons (a : SegS) (r : List SegS) : fixedLen (a :: r) = fixedLen [a] + fixedLen r := by
  cases a <;> rfl

/-- number of offset slots: a container value has that many variable fields -/
def nOff : List SegS → Nat
  | [] => 0
  | .fixed _ :: r => nOff r
  | .off :: r => nOff r + 1

structure CVal where
  segs : List Seg
  vars : List (List Nat)

/-- fixed part with the offsets filled in -/
def encFixed : List Seg → List Nat → List Nat
  | [], _ => []
  | .fixed b :: r, os => b ++ encFixed r os
  | .off :: r, o :: os => u32le o ++ encFixed r os
  | .off :: r, [] => encFixed r []

theorem encFixed_length (segs : List Seg) (os : List Nat) (h : nOff (segs.map Seg.schema) ≤ os.length) :
    (encFixed segs os).length = fixedLen (segs.map Seg.schema) := by
  fun_induction encFixed segs os   -- the four clauses of `encFixed`: no slot | inline | offset | offset, none left
  case case1 => rfl
  case case2 b r os ih => rw [List.length_append, ih h]; rfl
  case case3 r o os ih => rw [List.length_append, ih (Nat.le_of_succ_le_succ h)]; rfl
  case case4 => cases h

theorem mem_encFixed {segs : List Seg} {b : List Nat} (h : Seg.fixed b ∈ segs) (offs : List Nat) :
    ∀ x ∈ b, x ∈ encFixed segs offs := by
  fun_induction encFixed segs offs
  case case1 => cases h
  case case2 b' r os ih =>
    intro x hx
    rcases List.mem_cons.1 h with h1 | h1
    · cases h1; exact List.mem_append_left _ hx
    · exact List.mem_append_right _ (ih h1 x hx)
  case case3 r o os ih => exact fun x hx => List.mem_append_right _ (ih ((List.mem_cons.1 h).resolve_left nofun) x hx)
  case case4 r ih => exact ih ((List.mem_cons.1 h).resolve_left nofun)

/-- parse the fixed part along the schema: the inline fields and the offsets read -/
def decFixed : List SegS → List Nat → Option (List Seg × List Nat)
  | [], _ => some ([], [])
  | .fixed n :: r, buf =>
    if buf.length < n then none
    else (decFixed r (buf.drop n)).map (fun p => (Seg.fixed (buf.take n) :: p.1, p.2))
  | .off :: r, buf =>
    match rd32 buf with
    | none => none
    | some (o, rest) => (decFixed r rest).map (fun p => (Seg.off :: p.1, o :: p.2))

theorem decFixed_encFixed (segs : List Seg) (os : List Nat) (tail : List Nat)
    (hn : nOff (segs.map Seg.schema) = os.length) (hos : ∀ o ∈ os, o < 2 ^ 32) :
    decFixed (segs.map Seg.schema) (encFixed segs os ++ tail) = some (segs, os) := by
  fun_induction encFixed segs os
  case case1 os => cases List.eq_nil_of_length_eq_zero hn.symm; rfl
  case case2 b r os ih =>
    rw [List.map_cons, Seg.schema, decFixed, List.append_assoc, if_neg (by rw [List.length_append]; omega),
      List.drop_left, List.take_left, ih hn hos]
    rfl
  case case3 r o os ih =>
    obtain ⟨ho, hos⟩ := List.forall_mem_cons.1 hos
    rw [List.map_cons, Seg.schema, decFixed, List.append_assoc, rd32_u32le o _ ho]
    simp only
    rw [ih (Nat.succ.inj hn) hos]
    rfl
  case case4 => cases hn

theorem decFixed_sound {schema : List SegS} {buf : List Nat} {segs : List Seg} {offs : List Nat} (hb : Bytes buf)
    (h : decFixed schema buf = some (segs, offs)) :
    segs.map Seg.schema = schema ∧ nOff schema = offs.length ∧ ∃ tail, buf = encFixed segs offs ++ tail := by
  fun_induction decFixed schema buf generalizing segs offs
  case case1 buf => cases h; exact ⟨rfl, rfl, buf, rfl⟩   -- no slot
  case case3 n r buf hlen ih =>   -- an inline slot and at least `n` bytes (case2: fewer)
    obtain ⟨p, hrec, hp⟩ := Option.map_eq_some_iff.1 h
    cases hp
    obtain ⟨hsch, hnoff, tail, hbuf⟩ := ih (fun x hx => hb x (List.mem_of_mem_drop hx)) hrec
    exact ⟨by rw [List.map_cons, Seg.schema, hsch, List.length_take_of_le (Nat.le_of_not_lt hlen)], hnoff, tail,
      by rw [encFixed, List.append_assoc, ← hbuf, List.take_append_drop]⟩
  case case5 r buf o rest hr ih =>   -- an offset slot and 4 bytes to read (case4: fewer)
    obtain ⟨p, hrec, hp⟩ := Option.map_eq_some_iff.1 h
    cases hp
    obtain ⟨hcan, hbr⟩ := rd32_sound buf o rest hb hr
    obtain ⟨hsch, hnoff, tail, hbuf⟩ := ih hbr hrec
    exact ⟨by rw [List.map_cons, Seg.schema, hsch], congrArg (· + 1) hnoff, tail,
      by rw [encFixed, List.append_assoc, ← hbuf, hcan]⟩
  all_goals cases h

def encodeC (c : CVal) : List Nat :=
  encFixed c.segs (offsetsOf (fixedLen (c.segs.map Seg.schema)) c.vars) ++ c.vars.flatten

theorem encodeC_length (c : CVal) (hn : nOff (c.segs.map Seg.schema) = c.vars.length) :
    (encodeC c).length = fixedLen (c.segs.map Seg.schema) + total c.vars := by
  rw [encodeC, List.length_append, encFixed_length _ _ (by rw [offsetsOf_length, hn]; exact Nat.le_refl _)]
  rfl

theorem bytes_parts {c : CVal} (hb : Bytes (encodeC c)) :
    (∀ b, Seg.fixed b ∈ c.segs → Bytes b) ∧ ∀ y ∈ c.vars, Bytes y :=
  ⟨fun _ hmem x hx => hb x (List.mem_append_left _ (mem_encFixed hmem _ x hx)),
   fun y hy x hx => hb x (List.mem_append_right _ (List.mem_flatten.2 ⟨y, hy, hx⟩))⟩

/-- `UnmarshalSSZ` of a container: size guard, fixed part, first offset must equal the fixed size
    (the `o != N` check), then monotone in-range offsets cut the tail -/
def decodeC (schema : List SegS) (buf : List Nat) : Option CVal :=
  if buf.length < fixedLen schema then none
  else match decFixed schema buf with
    | none => none
    | some (segs, offs) =>
      match offs with
      | [] => if buf.length = fixedLen schema then some { segs := segs, vars := [] } else none
      | o :: _ =>
        if o ≠ fixedLen schema then none
        else (cut buf buf.length offs).map (fun vs => { segs := segs, vars := vs })

theorem decodeC_encodeC (c : CVal)
    (hn : nOff (c.segs.map Seg.schema) = c.vars.length)
    (hsz : fixedLen (c.segs.map Seg.schema) + total c.vars < 2 ^ 32) :
    decodeC (c.segs.map Seg.schema) (encodeC c) = some c := by
  obtain ⟨segs, vars⟩ := c
  simp only [encodeC] at hn hsz ⊢
  have hol := offsetsOf_length (fixedLen (segs.map Seg.schema)) vars
  have hfl := encFixed_length segs (offsetsOf (fixedLen (segs.map Seg.schema)) vars) (by rw [hol, hn]; exact Nat.le_refl _)
  rw [decodeC, if_neg (by rw [List.length_append, hfl]; exact Nat.not_lt.2 (Nat.le_add_right ..)),
    decFixed_encFixed segs _ _ (by rw [hol, hn]) (fun o ho => Nat.lt_of_le_of_lt (offsetsOf_le _ _ o ho) hsz)]
  cases vars with
  | nil => simp [offsetsOf, ← hfl]
  | cons x xs =>
    have hc := cut_offsetsOf _ (x :: xs) _ hfl.symm
    rw [offsetsOf] at hc ⊢
    simp only [ne_eq, not_true_eq_false, if_false, hc, Option.map_some]

theorem decodeC_canonical (schema : List SegS) (buf : List Nat) (c : CVal) (hb : Bytes buf)
    (h : decodeC schema buf = some c) : encodeC c = buf ∧ c.segs.map Seg.schema = schema := by
  revert h
  fun_cases decodeC schema buf
  case case3 _ segs hlen hf =>   -- no offset read, and the buffer is exactly the fixed part
    intro h
    cases h
    obtain ⟨hsch, hnoff, tail, rfl⟩ := decFixed_sound hb hf
    have hfl := encFixed_length segs [] (by rw [hsch, hnoff]; exact Nat.le_refl _)
    rw [List.length_append, hfl, hsch, Nat.add_eq_left, List.length_eq_zero_iff] at hlen
    exact ⟨by rw [hlen]; rfl, hsch⟩
  case case6 _ segs o rest ho hf =>   -- offsets read, the first one equal to the fixed size: the tail is cut
    intro h
    obtain ⟨vs, hcut, rfl⟩ := Option.map_eq_some_iff.1 h
    obtain ⟨hsch, hnoff, tail, rfl⟩ := decFixed_sound hb hf
    have hfl := encFixed_length segs (o :: rest) (by rw [hsch, hnoff]; exact Nat.le_refl _)
    have ho : fixedLen schema = o := (Decidable.not_not.1 ho).symm
    obtain ⟨hoffs, hflat⟩ := cut_sound_append _ _ o rest vs (hfl.trans (hsch ▸ ho)) hcut
    exact ⟨by rw [encodeC, hsch, ho, ← hoffs, hflat], hsch⟩
  all_goals nofun

#print axioms decodeC_encodeC
#print axioms decodeC_canonical
end Sz
