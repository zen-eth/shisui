/-! Merkle branches over an arbitrary two-to-one function `H`: the verifier's loop (`fold`), trees (`root`, `nodeAt`,
    `build`) and the honest prover (`prove`). Nothing is assumed of `H`; soundness is in binding form: a branch that
    folds to the root of a tree ends at the tree's node at that position, or a `Collision` of `H` or a leaf that is
    itself a hash (`LeafPre`) is exhibited. -/
namespace Mk
abbrev Hash := Nat

inductive Tree where
  | leaf (v : Hash)
  | node (l r : Tree)

variable (H : Hash → Hash → Hash)

def root : Tree → Hash
  | .leaf v => v
  | .node l r => H (root l) (root r)

/-- zrnt `VerifyMerkleBranch` loop: bottom-up fold, bit i of `idx` selects the side at level i. -/
def fold (v : Hash) : List Hash → Nat → Hash
  | [], _ => v
  | s :: rest, idx => fold (if idx % 2 = 1 then H s v else H v s) rest (idx / 2)

def verify (leaf : Hash) (branch : List Hash) (idx : Nat) (r : Hash) : Bool :=
  fold H leaf branch idx == r

/-- subtree reached by walking `d` levels down from the root, most significant of the low `d` bits first -/
def nodeAt : Tree → Nat → Nat → Option Tree
  | t, 0, _ => some t
  | .leaf _, _+1, _ => none
  | .node l r, d+1, idx => if (idx / 2 ^ d) % 2 = 1 then nodeAt r d idx else nodeAt l d idx

def Collision : Prop := ∃ a b c d, (a, b) ≠ (c, d) ∧ H a b = H c d
/-- some leaf chunk of the opening is itself a hash of two chunks -/
inductive LeafPre : Tree → Prop
  | here (v a b) : H a b = v → LeafPre (.leaf v)
  | left (l r) : LeafPre l → LeafPre (.node l r)
  | right (l r) : LeafPre r → LeafPre (.node l r)

/-- honest prover: siblings bottom-up and the hash found at the position -/
def prove : Tree → Nat → Nat → Option (List Hash × Hash)
  | t, 0, _ => some ([], root H t)
  | .leaf _, _+1, _ => none
  | .node l r, d+1, idx =>
    if (idx / 2 ^ d) % 2 = 1 then (prove r d idx).map (fun p => (p.1 ++ [root H l], p.2))
    else (prove l d idx).map (fun p => (p.1 ++ [root H r], p.2))

/-! ## One level

A level of a branch uses the position only to choose a side: `pick i l r` is the child on the path, `pick i r l` its
sibling, and `stepH` hashes the two in that order. Each definition gets one equation for a node that does not split
on the bit, so the inductions below have a single node case. `fold` and the statement of `fold_append` spell the `if`
of `stepH` out: the two forms are equal by `rfl`, which is what a closing `rfl` after a rewrite with them does. -/

def pick (i : Nat) (l r : Tree) : Tree := if i % 2 = 1 then r else l

def stepH (i : Nat) (v s : Hash) : Hash := if i % 2 = 1 then H s v else H v s

theorem pick_congr {i j : Nat} (h : i % 2 = j % 2) (l r : Tree) : pick i l r = pick j l r := by
  unfold pick; rw [h]

theorem pick_odd {i : Nat} (h : i % 2 = 1) (l r : Tree) : pick i l r = r := if_pos h

theorem pick_even {i : Nat} (h : i % 2 = 0) (l r : Tree) : pick i l r = l :=
  if_neg fun h1 => Nat.zero_ne_one (h.symm.trans h1)

theorem stepH_congr {i j : Nat} (h : i % 2 = j % 2) (v s : Hash) : stepH H i v s = stepH H j v s := by
  unfold stepH; rw [h]

theorem fold_cons (v s : Hash) (rest : List Hash) (idx : Nat) :
    fold H v (s :: rest) idx = fold H (stepH H idx v s) rest (idx / 2) := rfl

theorem root_node (i : Nat) (l r : Tree) :
    root H (.node l r) = stepH H i (root H (pick i l r)) (root H (pick i r l)) := by
  unfold stepH pick; split <;> rfl

theorem nodeAt_node (l r : Tree) (d idx : Nat) :
    nodeAt (.node l r) (d + 1) idx = nodeAt (pick (idx / 2 ^ d) l r) d idx :=
  (apply_ite (nodeAt · d idx) ..).symm

theorem prove_node (l r : Tree) (d idx : Nat) :
    prove H (.node l r) (d + 1) idx =
      (prove H (pick (idx / 2 ^ d) l r) d idx).map fun p => (p.1 ++ [root H (pick (idx / 2 ^ d) r l)], p.2) := by
  unfold pick
  split
  · next h => exact if_pos h
  · next h => exact if_neg h

theorem LeafPre.of_pick {i : Nat} {l r : Tree} (h : LeafPre H (pick i l r)) : LeafPre H (.node l r) := by
  unfold pick at h
  split at h
  · exact .right l r h
  · exact .left l r h

theorem eq_or_collision {a b c d : Hash} (h : H a b = H c d) : (a = c ∧ b = d) ∨ Collision H :=
  if e : (a, b) = (c, d) then .inl (Prod.mk.inj e) else .inr ⟨a, b, c, d, e, h⟩

theorem stepH_inj {i : Nat} {v s v' s' : Hash} (h : stepH H i v s = stepH H i v' s') :
    (v = v' ∧ s = s') ∨ Collision H := by
  unfold stepH at h
  split at h
  · exact (eq_or_collision H h).imp_left And.symm
  · exact eq_or_collision H h

/-- the last sibling is hashed at the top -/
theorem fold_append (v : Hash) (bs : List Hash) (s : Hash) (idx : Nat) :
    fold H v (bs ++ [s]) idx =
      (if (idx / 2 ^ bs.length) % 2 = 1 then H s (fold H v bs idx) else H (fold H v bs idx) s) := by
  induction bs generalizing v idx with
  | nil => rw [List.length_nil, Nat.pow_zero, Nat.div_one]; rfl
  | cons b bs ih =>
    rw [List.cons_append, fold_cons, ih, List.length_cons, Nat.pow_succ', ← Nat.div_div_eq_div_mul]; rfl

/-- the verifier only looks at the low `length` bits of the index: passing the generalized index
    itself (3228, 6444, 32768 + 2r, 2·8192 + i …) is the same as passing the position -/
theorem fold_mod (v : Hash) (branch : List Hash) (idx : Nat) :
    fold H v branch idx = fold H v branch (idx % 2 ^ branch.length) := by
  induction branch generalizing v idx with
  | nil => rfl
  | cons s rest ih =>
    have bit : idx % (2 * 2 ^ rest.length) % 2 = idx % 2 := Nat.mod_mul_right_mod ..
    rw [fold_cons, fold_cons, ih, ih (idx := _ / 2), List.length_cons, Nat.pow_succ', Nat.mod_mul_right_div_self,
      Nat.mod_mod, stepH_congr H bit]

theorem nodeAt_mod (d : Nat) (T : Tree) (idx : Nat) : nodeAt T d idx = nodeAt T d (idx % 2 ^ d) := by
  induction d generalizing T idx with
  | zero => rw [nodeAt, nodeAt]
  | succ d ih =>
    cases T with
    | leaf v => rw [nodeAt, nodeAt]
    | node l r =>
      have bit : idx % 2 ^ (d + 1) / 2 ^ d % 2 = idx / 2 ^ d % 2 := by
        rw [Nat.pow_succ, Nat.mod_mul_right_div_self, Nat.mod_mod]
      rw [nodeAt_node, nodeAt_node, ih, ih (idx := idx % 2 ^ (d + 1)),
        Nat.mod_mod_of_dvd _ (Nat.pow_dvd_pow 2 (Nat.le_succ d)), pick_congr bit]

/-- binding of the verifier alone, no tree in sight: two accepted (leaf, branch) pairs of one length are the same pair -/
theorem fold_inj {br br' : List Hash} {v v' : Hash} {idx : Nat}
    (hl : br.length = br'.length) (h : fold H v br idx = fold H v' br' idx) :
    (v = v' ∧ br = br') ∨ Collision H := by
  induction br generalizing br' v v' idx with
  | nil =>
    cases List.eq_nil_of_length_eq_zero hl.symm
    exact .inl ⟨h, rfl⟩
  | cons s rest ih =>
    cases br' with
    | nil => cases hl
    | cons s' rest' =>
      rcases ih (Nat.succ.inj hl) h with ⟨h1, rfl⟩ | hc
      · exact (stepH_inj H h1).imp_left fun ⟨h3, h4⟩ => ⟨h3, by rw [h4]⟩
      · exact .inr hc

/-- Soundness without injectivity: a branch that folds to the root of ANY tree `T` either ends at the node `T` has
    at that position, or the two hash chains differ somewhere (first level from the top: a collision), or `T` is
    too shallow and one of its leaf chunks is a hash of two chunks. -/
theorem sound {T : Tree} {leaf : Hash} {branch : List Hash} {idx : Nat} (h : fold H leaf branch idx = root H T) :
    (∃ t, nodeAt T branch.length idx = some t ∧ root H t = leaf) ∨ Collision H ∨ LeafPre H T := by
  -- from the top of the tree down, which is from the last sibling back
  induction hn : branch.length generalizing T branch with
  | zero =>
    cases List.eq_nil_of_length_eq_zero hn
    exact .inl ⟨T, by rw [nodeAt], h.symm⟩
  | succ n ih =>
    rcases List.eq_nil_or_concat branch with rfl | ⟨bs, s, rfl⟩
    · cases hn
    · rw [List.concat_eq_append] at hn h
      rw [List.length_append] at hn
      rw [fold_append] at h
      cases T with
      | leaf v => split at h <;> exact .inr (.inr (.here v _ _ h))
      | node l r =>
        rw [root_node H (idx / 2 ^ bs.length)] at h
        rcases stepH_inj H h with ⟨h2, _⟩ | hc
        · cases Nat.succ.inj hn
          rw [nodeAt_node]
          exact (ih h2 rfl).imp_right (.imp_right (.of_pick H))
        · exact .inr (.inl hc)

/-- for a verifier that folds the first `d` of the siblings it is given (zrnt checks no length) -/
theorem sound_take {d : Nat} {b : List Hash} {leaf idx : Nat} {T : Tree} (hl : d ≤ b.length)
    (h : fold H leaf (b.take d) idx = root H T) :
    (∃ t, nodeAt T d idx = some t ∧ root H t = leaf) ∨ Collision H ∨ LeafPre H T :=
  List.length_take_of_le hl ▸ sound H h

theorem prove_spec (T : Tree) (d idx : Nat) :
    match nodeAt T d idx with
    | none => prove H T d idx = none
    | some t => ∃ br, prove H T d idx = some (br, root H t) ∧ br.length = d ∧
        fold H (root H t) br idx = root H T := by
  induction d generalizing T with
  | zero => rw [nodeAt, prove]; exact ⟨[], rfl, rfl, rfl⟩
  | succ d ih =>
    cases T with
    | leaf v => rw [nodeAt, prove]
    | node l r =>
      rw [nodeAt_node, prove_node]
      have := ih (pick (idx / 2 ^ d) l r)
      split at this
      · rw [this]; rfl
      · obtain ⟨br, hp, hl, hf⟩ := this
        refine ⟨_, by rw [hp]; rfl, by rw [List.length_append, hl]; rfl, ?_⟩
        rw [fold_append, hl, hf, root_node H (idx / 2 ^ d)]; rfl

theorem honest_verifies {d : Nat} {T t : Tree} {idx : Nat} (h : nodeAt T d idx = some t) :
    ∃ br, prove H T d idx = some (br, root H t) ∧ br.length = d ∧ fold H (root H t) br idx = root H T := by
  have := prove_spec H T d idx
  rw [h] at this
  exact this

/-- C03 completeness: an honestly generated proof always verifies, for every tree, depth and position -/
theorem complete (T : Tree) (d idx : Nat) (branch : List Hash) (leaf : Hash)
    (h : prove H T d idx = some (branch, leaf)) :
    branch.length = d ∧ fold H leaf branch idx = root H T ∧
    ∃ t, nodeAt T d idx = some t ∧ root H t = leaf := by
  have spec := prove_spec H T d idx
  split at spec
  · rw [spec] at h; cases h
  · next t node_there =>
    obtain ⟨br, hp, hl, hf⟩ := spec
    cases hp.symm.trans h
    exact ⟨hl, hf, t, node_there, rfl⟩

/-! ## Complete trees over a leaf function (SSZ vectors / padded lists). Positions are read modulo `2^depth`,
    so a generalized index may be passed as it is. -/

/-- complete tree of depth `d`: leaf `i` (0 ≤ i < 2^d, most significant bit decides first) is `f i` -/
def build : Nat → (Nat → Tree) → Tree
  | 0, f => f 0
  | d+1, f => .node (build d f) (build d (fun i => f (2 ^ d + i)))

theorem nodeAt_build (d : Nat) (f : Nat → Tree) (i : Nat) : nodeAt (build d f) d i = some (f (i % 2 ^ d)) := by
  induction d generalizing f with
  | zero => rw [nodeAt, build, Nat.pow_zero, Nat.mod_one]
  | succ d ih =>
    -- `i % 2^(d+1) = i % 2^d + 2^d * bit d`: the right half is the left half shifted by `2^d`
    rw [build, nodeAt_node, Nat.mod_pow_succ]
    rcases Nat.mod_two_eq_zero_or_one (i / 2 ^ d) with even | odd
    · rw [pick_even even, ih, even, Nat.mul_zero, Nat.add_zero]
    · rw [pick_odd odd, ih, odd, Nat.mul_one, Nat.add_comm]

#print axioms complete
#print axioms fold_mod
#print axioms fold_inj
#print axioms honest_verifies
#print axioms nodeAt_build
end Mk
