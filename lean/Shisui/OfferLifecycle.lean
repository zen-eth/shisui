import Shisui.Offer
/-! C09, "not already being received", over histories: the in-flight mark of a key is set by the offer that accepted it and
    is cleared when THAT offer's transfer ends (portal_protocol.go handleOffer: `cacheTransferringKeys(contentKeys)` before the
    reply, `defer deleteTransferringContentKeys(contentKeys)` in the receive goroutine, where `contentKeys` are the accepted
    keys of this offer only). Events: an offer of some keys (version 1, a slot is available, everything in range and not
    stored - the other conditions are covered per offer by `Of.accepted_only_if`), or the end of the i-th offer's transfer
    for whatever reason (delivered and discarded, read failure, connect timeout, shutdown). -/
namespace Ofl
open Of

inductive Ev where
  | offer (keys : List Nat)
  | finish (i : Nat)
deriving Repr

/-- per offer so far: the keys its receive goroutine is still waiting for ([] once it has ended or accepted nothing) -/
structure St where
  waiting : List (List Nat) := []

def inflight (s : St) (k : Nat) : Bool := s.waiting.any (fun w => w.contains k)

def env (s : St) : Env :=
  { inRange := fun _ => true, stored := fun _ => false, inflight := inflight s, queueFull := false }

/-- the connection id 7 is arbitrary: a reply carries it in `connId` only, neither the verdicts nor the keys waited for depend
    on it (`handleOffer_permit`) -/
def step (s : St) : Ev → St × List Verdict
  | .offer keys =>
    let r := handleOffer false 1 (env s) true 7 keys
    ({ waiting := s.waiting ++ [r.waitingFor] }, r.verdicts)
  | .finish i => ({ waiting := s.waiting.set i [] }, [])

def run (s : St) : List Ev → St × List (List Verdict)
  | [] => (s, [])
  | e :: es => let r := step s e; let rest := run r.1 es; (rest.1, r.2 :: rest.2)

/-- no key is being received by two transfers at once -/
def Inv (s : St) : Prop :=
  ∀ i j : Nat, i < j → ∀ wi wj : List Nat, s.waiting[i]? = some wi → s.waiting[j]? = some wj → ∀ k, k ∈ wi → k ∉ wj

theorem inflight_iff (s : St) (k : Nat) : inflight s k = true ↔ ∃ w ∈ s.waiting, k ∈ w := by
  simp [inflight]

theorem verdictV1_env (s : St) (k : Nat) : verdictV1 (env s) k = if inflight s k then .inProgress else .accepted := rfl

theorem mem_waitingFor (s : St) (keys : List Nat) (cid k : Nat) :
    k ∈ (handleOffer false 1 (env s) true cid keys).waitingFor ↔ k ∈ keys ∧ inflight s k = false := by
  rw [handleOffer_permit, verdicts, acceptedKeys_map, List.mem_filter, if_neg (by decide), verdictV1_env]
  cases inflight s k <;> simp

theorem getElem?_concat_eq_some {α : Type} {l : List α} {a b : α} {j : Nat} (h : (l ++ [a])[j]? = some b) :
    l[j]? = some b ∨ (j = l.length ∧ b = a) := by
  rcases Nat.lt_trichotomy j l.length with hlt | rfl | hgt
  · exact Or.inl (List.getElem?_append_left hlt ▸ h)
  · exact Or.inr ⟨rfl, (Option.some.inj (List.getElem?_concat_length ▸ h)).symm⟩
  · rw [List.getElem?_eq_none (by rw [List.length_append, List.length_singleton]; exact hgt)] at h; cases h

theorem getElem?_set_eq_some {α : Type} {l : List α} {a b : α} {n j : Nat} (h : (l.set n a)[j]? = some b) :
    l[j]? = some b ∨ b = a := by
  rw [List.getElem?_set] at h
  split at h
  · split at h
    · exact Or.inr (Option.some.inj h).symm
    · cases h
  · exact Or.inl h

theorem step_inv (s : St) (e : Ev) (h : Inv s) : Inv (step s e).1 := by
  intro i j hij wi wj hi hj k hk
  cases e with
  | offer keys =>
    -- an old transfer is disjoint from the new one because the offer declined what was in flight
    rcases getElem?_concat_eq_some hj with hj | ⟨rfl, rfl⟩
    · rcases getElem?_concat_eq_some hi with hi | ⟨rfl, _⟩
      · exact h i j hij wi wj hi hj k hk
      · exact absurd (List.getElem?_eq_some_iff.mp hj).1 (Nat.lt_asymm hij)
    · rcases getElem?_concat_eq_some hi with hi | ⟨rfl, _⟩
      · intro hk2
        have := ((mem_waitingFor s keys 7 k).mp hk2).2
        rw [(inflight_iff s k).mpr ⟨wi, List.mem_of_getElem? hi, hk⟩] at this
        cases this
      · exact absurd hij (Nat.lt_irrefl _)
  | finish n =>
    rcases getElem?_set_eq_some hi with hi | rfl
    · rcases getElem?_set_eq_some hj with hj | rfl
      · exact h i j hij wi wj hi hj k hk
      · exact List.not_mem_nil
    · cases hk

theorem run_inv (s : St) (es : List Ev) (h : Inv s) : Inv (run s es).1 := by
  induction es generalizing s with
  | nil => exact h
  | cons e es ih => exact ih _ (step_inv s e h)

/-! ### histories that mix protocol versions
    A version-0 offer does not consult the marks (the statement says "in version 1") but its accepted keys ARE being received
    and are marked all the same, so that a version-1 offer arriving meanwhile declines them. `mem_waitingFor`,
    `verdictV1_env` and `offer_marks` are about an arbitrary state `s`, hence hold in mixed histories; only `Inv` (no key in
    two transfers) is specific to version-1-only histories. -/
inductive EvM where
  | offer (v : Nat) (keys : List Nat)
  | finish (i : Nat)
deriving Repr

def stepM (s : St) : EvM → St × List Verdict
  | .offer v keys =>
    let r := handleOffer false v (env s) true 7 keys
    ({ waiting := s.waiting ++ [r.waitingFor] }, r.verdicts)
  | .finish i => ({ waiting := s.waiting.set i [] }, [])

theorem offer_marks (s : St) (v : Nat) (keys : List Nat) (cid k : Nat)
    (h : k ∈ (handleOffer false v (env s) true cid keys).waitingFor) : inflight (stepM s (.offer v keys)).1 k = true := by
  refine (inflight_iff _ k).mpr ⟨_, List.mem_append_right _ (List.mem_singleton_self _), ?_⟩
  rw [handleOffer_permit] at h ⊢
  exact h

/-- a version-0 offer marks what it accepts: afterwards every accepted key is in flight -/
theorem v0_accepted_is_marked (s : St) (keys : List Nat) (k : Nat)
    (h : k ∈ (handleOffer false 0 (env s) true 7 keys).waitingFor) :
    inflight (stepM s (.offer 0 keys)).1 k = true := offer_marks s 0 keys 7 k h

theorem stepM_v1 (s : St) (keys : List Nat) : stepM s (.offer 1 keys) = step s (.offer keys) := rfl

end Ofl
