/-! C11: FINDNODES as decision logic over observed record attributes. Asker: `Fnn.filterNodes`. Responder, twice.
    `Fnn.collect` is `collectTableNodes` over buckets listed in a given order, a function. `appendBucketNodes` shuffles every
    bucket, though, so the reply of `handleFindNodes` is not a function of the table; what it may be is: walking the requested
    distances (repeats and values above 256 dropped), a concatenation of duplicate-free selections from each distance's
    candidate set, each segment complete unless the reply ends inside it. `Fnr.consume` is that relation in executable form;
    the driver evaluates it on real replies. The two responder models have record types and candidate sets of their own
    (`Fnn.TNode`, `Fnn.cand`; `Fnr.TN`, `Fnr.cands`) and no theorem relates them. -/
namespace Fnn

structure Rec where
  id : Nat
  signed : Bool          -- enode.New succeeded (valid signature under an accepted scheme)
  relayOk : Bool         -- netutil.CheckRelayIP(sender.IP, n.IP) == nil
  inNetrestrict : Bool
  udp : Nat
  dist : Nat             -- LogDist(sender.ID, n.ID)
deriving DecidableEq, Repr

/-- `verifyResponseNode`: one record against the requested distances (`none` = no distance filter, as for CONTENT/ENRs) and
    the ids seen so far -/
def acceptable (requested : Option (List Nat)) (seen : List Nat) (r : Rec) : Bool :=
  r.signed && r.relayOk && r.inNetrestrict && decide (r.udp > 1024) &&
  (match requested with | none => true | some ds => decide (r.dist ∈ ds)) && decide (r.id ∉ seen)

/-- `filterNodes` -/
def filterNodes (requested : Option (List Nat)) : List Nat → List Rec → List Rec
  | _, [] => []
  | seen, r :: rs =>
    if acceptable requested seen r then r :: filterNodes requested (r.id :: seen) rs
    else filterNodes requested seen rs

theorem acceptable_of_cons {requested : Option (List Nat)} {x : Nat} {seen : List Nat} {r : Rec}
    (h : acceptable requested (x :: seen) r = true) : acceptable requested seen r = true ∧ r.id ≠ x := by
  simp only [acceptable, Bool.and_eq_true, decide_eq_true_eq, List.mem_cons, not_or] at h ⊢
  obtain ⟨hother, hne, hseen⟩ := h
  exact ⟨⟨hother, hseen⟩, hne⟩

theorem mem_filterNodes {requested : Option (List Nat)} {seen : List Nat} {rs : List Rec} {r : Rec}
    (h : r ∈ filterNodes requested seen rs) : r ∈ rs ∧ acceptable requested seen r = true := by
  induction rs generalizing seen with
  | nil => cases h
  | cons x xs ih =>
    rw [filterNodes] at h
    split at h
    · rcases List.mem_cons.mp h with rfl | h
      · exact ⟨List.mem_cons_self .., ‹_›⟩
      · exact ⟨List.mem_cons_of_mem _ (ih h).1, (acceptable_of_cons (ih h).2).1⟩
    · exact ⟨List.mem_cons_of_mem _ (ih h).1, (ih h).2⟩

theorem filterNodes_nodup (requested : Option (List Nat)) (seen : List Nat) (rs : List Rec) :
    ((filterNodes requested seen rs).map (·.id)).Nodup := by
  induction rs generalizing seen with
  | nil => exact .nil
  | cons x xs ih =>
    rw [filterNodes]
    split
    · rw [List.map_cons, List.nodup_cons]
      refine ⟨fun hm => ?_, ih _⟩
      obtain ⟨r, hr, hid⟩ := List.mem_map.mp hm
      exact (acceptable_of_cons (mem_filterNodes hr).2).2 hid
    · exact ih _

/-- C11 (asker): a record is used only if validly signed, at a requested distance from the responder,
    not a repeat, with a UDP port above 1024, relay-safe and inside the netrestrict list -/
theorem accept_only_if (requested : Option (List Nat)) (rs : List Rec) :
    (∀ r ∈ filterNodes requested [] rs,
        r ∈ rs ∧ r.signed = true ∧ r.relayOk = true ∧ r.inNetrestrict = true ∧ r.udp > 1024 ∧
        (∀ ds, requested = some ds → r.dist ∈ ds)) ∧
    ((filterNodes requested [] rs).map (·.id)).Nodup := by
  refine ⟨fun r hr => ?_, filterNodes_nodup requested [] rs⟩
  obtain ⟨hm, hacc⟩ := mem_filterNodes hr
  simp only [acceptable, Bool.and_eq_true, decide_eq_true_eq] at hacc
  obtain ⟨⟨⟨⟨⟨hsigned, hrelay⟩, hnet⟩, hudp⟩, hdist⟩, -⟩ := hacc
  exact ⟨hm, hsigned, hrelay, hnet, hudp, fun ds hds => by subst hds; exact of_decide_eq_true hdist⟩

structure TNode where
  id : Nat
  live : Bool
  relayOk : Bool         -- towards this asker
deriving DecidableEq, Repr

/-- candidates for one requested distance: self for 0, else the liveness-checked entries of the covering bucket -/
def cand (bucket : Nat → List TNode) (self : TNode) (d : Nat) : List TNode :=
  if d = 0 then [self] else (bucket d).filter (·.live)

/-- `collectTableNodes` (buckets already mapped through `bucketAtDistance`) -/
def collect (bucket : Nat → List TNode) (self : TNode) (limit : Nat) : List Nat → List Nat → List TNode → List TNode
  | [], _, acc => acc
  | d :: ds, done, acc =>
    if d ∈ done ∨ d > 256 then collect bucket self limit ds done acc
    else if (acc ++ (cand bucket self d).filter (·.relayOk)).length ≥ limit
      then (acc ++ (cand bucket self d).filter (·.relayOk)).take limit
      else collect bucket self limit ds (d :: done) (acc ++ (cand bucket self d).filter (·.relayOk))

theorem mem_cand {bucket : Nat → List TNode} {self n : TNode} {d : Nat} (h : n ∈ cand bucket self d) :
    n = self ∨ n.live = true := by
  unfold cand at h
  split at h
  · exact .inl (List.mem_singleton.mp h)
  · exact .inr (List.mem_filter.mp h).2

theorem collect_all {bucket : Nat → List TNode} {self : TNode} {limit : Nat} {P : TNode → Prop} {ds done : List Nat}
    {acc : List TNode} (hacc : ∀ n ∈ acc, P n) (hc : ∀ d ∈ ds, ∀ n ∈ (cand bucket self d).filter (·.relayOk), P n) :
    ∀ n ∈ collect bucket self limit ds done acc, P n := by
  -- the leaves of `collect`: case1 no distance left; case2 a repeated or invalid distance, passed over; case3 the limit is
  -- reached within this distance; case4 the candidates of this distance are taken whole
  fun_induction collect bucket self limit ds done acc with
  | case1 => exact hacc
  | case2 d ds _ _ _ ih => exact ih hacc fun d' hd' => hc d' (List.mem_cons_of_mem _ hd')
  | case3 d =>
    have hnew := List.forall_mem_append.mpr ⟨hacc, hc d (List.mem_cons_self ..)⟩
    exact fun n hn => hnew n (List.mem_of_mem_take hn)
  | case4 d ds _ _ _ _ ih =>
    have hnew := List.forall_mem_append.mpr ⟨hacc, hc d (List.mem_cons_self ..)⟩
    exact ih hnew fun d' hd' => hc d' (List.mem_cons_of_mem _ hd')

theorem length_collect_le {bucket : Nat → List TNode} {self : TNode} {limit : Nat} {ds done : List Nat}
    {acc : List TNode} (hlen : acc.length ≤ limit) : (collect bucket self limit ds done acc).length ≤ limit := by
  fun_induction collect bucket self limit ds done acc with
  | case1 => exact hlen
  | case2 _ _ _ _ _ ih => exact ih hlen
  | case3 => exact List.length_take_le ..
  | case4 _ _ _ _ _ hlt ih => exact ih (Nat.le_of_lt (Nat.not_le.mp hlt))

#print axioms accept_only_if
end Fnn

namespace Fnr

structure TN where
  id : Nat
  bucket : Nat
  live : Bool
  cls : String
  size : Nat
deriving Repr

/-- `netutil.CheckRelayIP` by address class -/
def relayOk (sender addr : String) : Bool :=
  if addr == "special" || addr == "none" then false
  else if addr == "loopback" && sender != "loopback" then false
  else if (addr == "lan") && !(sender == "lan" || sender == "loopback") then false
  else true

/-- `bucketAtDistance`: 239 = `bucketMinDistance` = hashBits − nBuckets = 256 − 17, and `d - 240` is Go's
    `d - bucketMinDistance - 1` -/
def bucketOf (d : Nat) : Nat := if d ≤ 239 then 0 else d - 240

/-- candidates for one requested distance: self for 0, verified entries of the covering bucket otherwise; relay-safe -/
def cands (tab : List TN) (selfN : TN) (asker : String) (d : Nat) : List TN :=
  (if d = 0 then [selfN] else tab.filter (fun n => n.bucket == bucketOf d && n.live)).filter (fun n => relayOk asker n.cls)

theorem mem_cands {tab : List TN} {selfN n : TN} {asker : String} {d : Nat} (h : n ∈ cands tab selfN asker d) :
    relayOk asker n.cls = true ∧ ((d = 0 ∧ n = selfN) ∨ (d ≠ 0 ∧ n ∈ tab ∧ n.live = true ∧ n.bucket = bucketOf d)) := by
  rw [cands, List.mem_filter] at h
  obtain ⟨hin, hrelay⟩ := h
  refine ⟨hrelay, ?_⟩
  split at hin
  · exact .inl ⟨‹_›, List.mem_singleton.mp hin⟩
  · simp only [List.mem_filter, Bool.and_eq_true, beq_iff_eq] at hin
    obtain ⟨hmem, hbucket, hlive⟩ := hin
    exact .inr ⟨‹_›, hmem, hlive, hbucket⟩

def cleanDists : List Nat → List Nat → List Nat
  | [], _ => []
  | d :: ds, seen => if seen.contains d || d > 256 then cleanDists ds seen else d :: cleanDists ds (d :: seen)

theorem mem_cleanDists {ds seen : List Nat} {d : Nat} (h : d ∈ cleanDists ds seen) : d ∈ ds ∧ d ≤ 256 := by
  induction ds generalizing seen with
  | nil => cases h
  | cons x xs ih =>
    rw [cleanDists] at h
    split at h
    · exact ⟨List.mem_cons_of_mem _ (ih h).1, (ih h).2⟩
    · rename_i hc
      rcases List.mem_cons.mp h with rfl | h
      · exact ⟨List.mem_cons_self .., Nat.not_lt.mp fun hd => hc (Bool.or_eq_true_iff.mpr (.inr (decide_eq_true hd)))⟩
      · exact ⟨List.mem_cons_of_mem _ (ih h).1, (ih h).2⟩

/-- consume the reply against the per-distance candidate sets; returns (ok, candidates not used, in order) -/
def consume : List (List TN) → List Nat → Bool × List (List TN)
  | [], res => (res.isEmpty, [])
  | s :: ss, res =>
    if !((res.take s.length).all (fun i => s.any (·.id == i)) && (res.take s.length).eraseDups.length == (res.take s.length).length) then (false, [])
    else if (res.take s.length).length < s.length then
      (res.length == (res.take s.length).length, (s.filter (fun n => !(res.take s.length).contains n.id)) :: ss)
    else consume ss (res.drop s.length)

theorem consume_mem {segs rest : List (List TN)} {res : List Nat} (h : consume segs res = (true, rest)) :
    ∀ i ∈ res, ∃ s ∈ segs, ∃ n ∈ s, n.id = i := by
  intro i hi
  -- the guard of `consume`: an id in the segment's share of the reply is the id of one of its candidates
  have hguard : ∀ {s : List TN} {seg : List Nat} {nodup : Bool},
      ¬(!(seg.all (fun i => s.any (·.id == i)) && nodup)) = true → i ∈ seg → ∃ n ∈ s, n.id = i := by
    intro s seg nodup hok hi
    simp only [Bool.not_eq_true', Bool.not_eq_false, Bool.and_eq_true] at hok
    obtain ⟨n, hn, hid⟩ := List.any_eq_true.mp (List.all_eq_true.mp hok.1 i hi)
    exact ⟨n, hn, beq_iff_eq.mp hid⟩
  -- the leaves of `consume`: case1 no segment left; case2 the guard fails; case3 the reply ends inside this segment;
  -- case4 the segment is used up and the rest of the reply goes to the other segments
  fun_induction consume segs res
  case case1 res =>
    cases res with
    | nil => cases hi
    | cons => cases h
  case case2 => cases h
  case case3 s ss res hok _ =>
    rw [Prod.mk.injEq, beq_iff_eq] at h
    have hall : res.take s.length = res :=
      List.take_of_length_le (Nat.le_trans (Nat.le_of_eq h.1) (List.length_take_le ..))
    exact ⟨s, List.mem_cons_self .., hguard hok (hall.symm ▸ hi)⟩
  case case4 s ss res hok _ ih =>
    rw [← List.take_append_drop s.length res] at hi
    rcases List.mem_append.mp hi with hi | hi
    · exact ⟨s, List.mem_cons_self .., hguard hok hi⟩
    · obtain ⟨s', hs', hn⟩ := ih h hi
      exact ⟨s', List.mem_cons_of_mem _ hs', hn⟩

end Fnr
