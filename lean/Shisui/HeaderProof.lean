import Shisui.Merkle
/-! Model of `validation.HeaderValidator.ValidateHeaderAndProof` (validation/header_validator.go) and of the
    summaries provider (validation/historical_summaries_provider.go), over an arbitrary two-to-one hash `H`
    (the driver instantiates it with the Lean SHA-256).

    * hashes/chunks are `Mk.Hash = Nat` (a 32-byte chunk read big-endian);
    * Go's failure modes are explicit outcomes: `errExec`, `errMerkle`, `errOther`, `panic`;
    * the two unchecked table accesses are Boolean quirk switches (`Quirks`): `ideal` is the model the property
      theorems are about, the driver compares the code with the switch position the code exhibits;
    * raw proof bytes are `List Nat`; `chunksOf` / `decodePM` are the length checks and slicing of
      `TurnToPreMergeProof` and of the three fixed-size SSZ containers (840 / 808 / 840 bytes).
    Core Lean only. -/
namespace Hp
open Mk

/-! ## constants (compared with the Go constants on every run by the `consts` line) -/
def epochSize : Nat := 8192
def mergeBlock : Nat := 15537394
def shanghaiBlock : Nat := 17034870
def cancunBlock : Nat := 19426587
def capellaForkEpoch : Nat := 194048
def slotsPerEpoch : Nat := 32
def capellaStart : Nat := capellaForkEpoch * slotsPerEpoch
def gindexBellatrix : Nat := 3228
def gindexDeneb : Nat := 6444

inductive Out where
  | ok | errExec | errMerkle | errOther | panic
deriving DecidableEq, Repr

def Out.isErr : Out → Bool
  | .errExec | .errMerkle | .errOther => true
  | _ => false

/-- deviations of the code from the property, as switches -/
structure Quirks where
  epochsUnchecked : Bool   -- `HistoricalEpochs[epochIndex]` is indexed without a bounds check
  rootsUnchecked : Bool    -- `HistoricalRoots[slot / 8192]` is indexed without a bounds check

def ideal : Quirks := ⟨false, false⟩
def asIs : Quirks := ⟨true, true⟩

/-- behaviour of the beacon oracle the summaries provider may ask -/
inductive Oracle where
  | absent                       -- nil oracle
  | failing                      -- returns an error
  | answers (l : List Hash)      -- returns this list of block-summary roots

structure Tables where
  epochs : List Hash        -- pre-merge accumulator: epoch roots
  roots : List Hash         -- historical_roots (merge … Capella)
  summaries : List Hash     -- block_summary_root of the provider's cached historical summaries
  oracle : Oracle

/-- a decoded post-merge proof container -/
structure PM where
  bproof : List Hash
  broot : Hash
  eproof : List Hash
  slot : Nat

def mkPM (bp : List Hash) (br : Hash) (ep : List Hash) (slot : Nat) : PM := ⟨bp, br, ep, slot⟩

def oorOut (unchecked : Bool) : Out := if unchecked then .panic else .errOther

/-! ## pre-merge: fastssz `VerifyProof` at index `4·8192 + 2·record` against `HistoricalEpochs[epoch]` -/
def preIndex (number : Nat) : Nat := epochSize * 2 * 2 + (number % epochSize) * 2

def checkPre (H : Hash → Hash → Hash) (root : Hash) (number : Nat) (hash : Hash) (sib : List Hash) : Out :=
  if sib.length = Nat.log2 (preIndex number) then
    (if fold H hash sib (preIndex number) = root then .ok else .errMerkle)
  else .errOther

/-- `sib = none`: the proof bytes are not a multiple of 32 (error of `TurnToPreMergeProof`, after the table access) -/
def validatePre (H : Hash → Hash → Hash) (q : Quirks) (t : Tables) (number : Nat) (hash : Hash)
    (sib : Option (List Hash)) : Out :=
  match t.epochs[number / epochSize]? with
  | none => oorOut q.epochsUnchecked
  | some root =>
    match sib with
    | none => .errOther
    | some s => checkPre H root number hash s

/-! ## merge … Capella: execution branch (gindex 3228), then beacon branch of depth 14 against `HistoricalRoots[slot/8192]` -/
def bellIndex (slot : Nat) : Nat := 2 * epochSize + slot % epochSize
def summIndex (slot : Nat) : Nat := epochSize + slot % epochSize

def validateBell (H : Hash → Hash → Hash) (q : Quirks) (t : Tables) (hash : Hash) (p : PM) : Out :=
  if fold H hash p.eproof gindexBellatrix = p.broot then
    match t.roots[p.slot / epochSize]? with
    | none => oorOut q.rootsUnchecked
    | some r => if fold H p.broot (p.bproof.take 14) (bellIndex p.slot) = r then .ok else .errMerkle
  else .errExec

/-! ## Capella and later: summaries provider (wrapping uint64 subtraction, bounds check, oracle), depth 13 -/
def summaryIndex (slot : Nat) : Nat := ((slot + 2 ^ 64 - capellaStart) % 2 ^ 64) / epochSize

def lookupSummary (t : Tables) (slot : Nat) : Option Hash :=
  match t.summaries[summaryIndex slot]? with
  | some s => some s
  | none =>
    match t.oracle with
    | .answers l => l[summaryIndex slot]?
    | _ => none

/-- the provider replaces its cache by the oracle's answer when that answer contains the wanted index -/
def cacheAfterLookup (t : Tables) (slot : Nat) : List Hash :=
  match t.summaries[summaryIndex slot]? with
  | some _ => t.summaries
  | none =>
    match t.oracle with
    | .answers l => if summaryIndex slot < l.length then l else t.summaries
    | _ => t.summaries

def validateSumm (H : Hash → Hash → Hash) (g : Nat) (t : Tables) (hash : Hash) (p : PM) : Out :=
  if fold H hash p.eproof g = p.broot then
    match lookupSummary t p.slot with
    | none => .errOther
    | some r => if fold H p.broot (p.bproof.take 13) (summIndex p.slot) = r then .ok else .errMerkle
  else .errExec

def cacheAfterSumm (H : Hash → Hash → Hash) (g : Nat) (t : Tables) (hash : Hash) (p : PM) : List Hash :=
  if fold H hash p.eproof g = p.broot then cacheAfterLookup t p.slot else t.summaries

def beNat (l : List Nat) : Nat := l.foldl (fun a b => a * 256 + b) 0

def leNat : List Nat → Nat
  | [] => 0
  | b :: rest => b + 256 * leNat rest

def chunk (b : List Nat) (i : Nat) : Hash := beNat ((b.drop (32 * i)).take 32)
def chunks (b : List Nat) (first n : Nat) : List Hash := (List.range n).map (fun i => chunk b (first + i))

/-- `TurnToPreMergeProof` -/
def chunksOf (b : List Nat) : Option (List Hash) :=
  if b.length % 32 = 0 then some (chunks b 0 (b.length / 32)) else none

/-- `UnmarshalSSZ` of the fixed-size containers: `nb` beacon siblings, root, `ne` execution siblings, slot (LE) -/
def decodePM (nb ne : Nat) (b : List Nat) : Option PM :=
  if b.length = 32 * (nb + 1 + ne) + 8 then
    some (mkPM (chunks b 0 nb) (chunk b nb) (chunks b (nb + 1) ne) (leNat ((b.drop (32 * (nb + 1 + ne))).take 8)))
  else none

inductive Era where
  | preMerge | bellatrix | capella | deneb
deriving DecidableEq, Repr

def eraOf (number : Nat) : Era :=
  if number < mergeBlock then .preMerge
  else if number < shanghaiBlock then .bellatrix
  else if number < cancunBlock then .capella
  else .deneb

/-- `ValidateHeaderAndProof` for a header with this number and hash -/
def validate (H : Hash → Hash → Hash) (q : Quirks) (t : Tables) (number : Nat) (hash : Hash) (proof : List Nat) : Out :=
  match eraOf number with
  | .preMerge => validatePre H q t number hash (chunksOf proof)
  | .bellatrix =>
    match decodePM 14 11 proof with
    | none => .errOther
    | some p => validateBell H q t hash p
  | .capella =>
    match decodePM 13 11 proof with
    | none => .errOther
    | some p => validateSumm H gindexBellatrix t hash p
  | .deneb =>
    match decodePM 13 12 proof with
    | none => .errOther
    | some p => validateSumm H gindexDeneb t hash p

/-- the provider's cache after the call -/
def cacheAfter (H : Hash → Hash → Hash) (t : Tables) (number : Nat) (hash : Hash) (proof : List Nat) : List Hash :=
  match eraOf number with
  | .preMerge => t.summaries
  | .bellatrix => t.summaries
  | .capella =>
    match decodePM 13 11 proof with
    | none => t.summaries
    | some p => cacheAfterSumm H gindexBellatrix t hash p
  | .deneb =>
    match decodePM 13 12 proof with
    | none => t.summaries
    | some p => cacheAfterSumm H gindexDeneb t hash p

/-! ## the committed structures (specification side) -/

/-- 8192 as the 32-byte little-endian length chunk mixed into the epoch root, read big-endian -/
def lenChunk : Hash := 0x20 * 256 ^ 30

/-- record `i` of an epoch: (block hash, total difficulty chunk); positions past the chain are zero records -/
def recAt (recs : List (Hash × Hash)) (i : Nat) : Hash × Hash :=
  match recs[i]? with
  | some r => r
  | none => (0, 0)

/-- chunk `j` of the 16384 chunks of an epoch accumulator: hash and total difficulty alternate -/
def epochChunk (recs : List (Hash × Hash)) (j : Nat) : Hash :=
  if j % 2 = 0 then (recAt recs (j / 2)).1 else (recAt recs (j / 2)).2

/-- SSZ tree of `EpochAccumulator` with `MixInLength(·, 8192)` on top: depth 15 -/
def epochTree (recs : List (Hash × Hash)) : Tree :=
  .node (build 14 (fun j => .leaf (epochChunk recs j))) (.leaf lenChunk)

def epochRoot (H : Hash → Hash → Hash) (recs : List (Hash × Hash)) : Hash := root H (epochTree recs)

/-- the model of `history.BuildProof`: 14 siblings inside the accumulator and the length chunk -/
def proveEpoch (H : Hash → Hash → Hash) (recs : List (Hash × Hash)) (number : Nat) : Option (List Hash) :=
  (prove H (epochTree recs) 15 (preIndex number)).map (fun p => p.1)

theorem oorOut_ne_ok (u : Bool) : oorOut u ≠ .ok := by cases u <;> exact nofun

/-- `preIndex n` is the generalized index `2^15 + 2r` of chunk `2r` — the block hash of record `r = n mod 8192` —
    among the 2^14 chunks below the left child of the length mix-in -/
theorem preIndex_eq (n : Nat) : preIndex n = 2 ^ 14 * 2 + 2 * (n % epochSize) := by
  rw [preIndex, Nat.mul_comm (n % epochSize)]; rfl

theorem chunkIdx_lt (n : Nat) : 2 * (n % epochSize) < 2 ^ 14 :=
  Nat.mul_lt_mul_of_pos_left (Nat.mod_lt _ (by decide)) (by decide)

-- `preIndex n = 2 · 2^14 + 2r` with `2r < 2^14`: quotient 2, remainder `2r`
theorem preIndex_divMod (n : Nat) : preIndex n / 2 ^ 14 = 2 ∧ preIndex n % 2 ^ 14 = 2 * (n % epochSize) :=
  (Nat.div_mod_unique (Nat.two_pow_pos 14)).2 ⟨(Nat.add_comm ..).trans (preIndex_eq n).symm, chunkIdx_lt n⟩

theorem preIndex_log2 (n : Nat) : Nat.log2 (preIndex n) = 15 := by
  -- `2^15 ≤ 2^15 + 2r < 2^16`
  rw [preIndex_eq]
  exact (Nat.log2_eq_iff (Nat.ne_of_gt (Nat.lt_of_lt_of_le (by decide) (Nat.le_add_right ..)))).2
    ⟨Nat.le_add_right .., Nat.lt_of_lt_of_le (Nat.add_lt_add_left (chunkIdx_lt n) _) (by decide)⟩

variable (H : Hash → Hash → Hash) {q : Quirks} {t : Tables} {n g d idx : Nat} {hash : Hash} {p : PM}

theorem checkPre_ok_iff {root : Hash} {sib : List Hash} :
    checkPre H root n hash sib = .ok ↔ sib.length = 15 ∧ fold H hash sib (preIndex n) = root := by
  rw [checkPre, preIndex_log2]
  by_cases hl : sib.length = 15
  · rw [if_pos hl]
    split <;> simp [*]
  · rw [if_neg hl]
    simp [hl]

theorem validatePre_ok_iff {sib : Option (List Hash)} :
    validatePre H q t n hash sib = .ok ↔
      ∃ s, sib = some s ∧ s.length = 15 ∧ t.epochs[n / epochSize]? = some (fold H hash s (preIndex n)) := by
  unfold validatePre
  cases t.epochs[n / epochSize]? with
  | none => simp [oorOut_ne_ok]
  | some root =>
    cases sib with
    | none => simp
    | some s =>
      show checkPre H root n hash s = .ok ↔ _
      rw [checkPre_ok_iff]
      exact ⟨fun ⟨h1, h2⟩ => ⟨s, rfl, h1, h2 ▸ rfl⟩, fun ⟨_, rfl, h1, h2⟩ => ⟨h1, (Option.some.inj h2).symm⟩⟩

theorem validatePre_ne_panic {sib : Option (List Hash)} : validatePre H ideal t n hash sib ≠ .panic := by
  unfold validatePre
  split
  · exact nofun
  · split
    · exact nofun
    · next s =>
      unfold checkPre
      by_cases hl : s.length = Nat.log2 (preIndex n)
      · rw [if_pos hl]
        split <;> exact nofun
      · rw [if_neg hl]
        exact nofun

/-! ## post-merge: the validators are one function

`validateBell` and `validateSumm` differ in the execution gindex `g`, the depth `d` and index `idx` of the beacon
branch, the table entry and what a missing entry yields; everything about them is proved once, for `checkPost`. -/

def checkPost (H : Hash → Hash → Hash) (g d idx : Nat) (entry : Option Hash) (unchecked : Bool) (hash : Hash)
    (p : PM) : Out :=
  if fold H hash p.eproof g = p.broot then
    match entry with
    | none => oorOut unchecked
    | some r => if fold H p.broot (p.bproof.take d) idx = r then .ok else .errMerkle
  else .errExec

theorem validateBell_eq :
    validateBell H q t hash p =
      checkPost H gindexBellatrix 14 (bellIndex p.slot) t.roots[p.slot / epochSize]? q.rootsUnchecked hash p := rfl

theorem validateSumm_eq :
    validateSumm H g t hash p =
      checkPost H g 13 (summIndex p.slot) (lookupSummary t p.slot) false hash p := rfl

theorem checkPost_ok_iff {entry : Option Hash} {u : Bool} :
    checkPost H g d idx entry u hash p = .ok ↔
      fold H hash p.eproof g = p.broot ∧ entry = some (fold H p.broot (p.bproof.take d) idx) := by
  unfold checkPost
  by_cases he : fold H hash p.eproof g = p.broot
  · rw [if_pos he]
    cases entry with
    | none => simp [oorOut_ne_ok]
    | some r => simp [he, eq_comm]
  · rw [if_neg he]
    simp [he]

theorem checkPost_none {u : Bool} :
    checkPost H g d idx none u hash p = if fold H hash p.eproof g = p.broot then oorOut u else .errExec := rfl

theorem checkPost_ne_panic {entry : Option Hash} :
    checkPost H g d idx entry false hash p ≠ .panic := by
  unfold checkPost
  by_cases he : fold H hash p.eproof g = p.broot
  · rw [if_pos he]
    cases entry with
    | none => exact nofun
    | some r =>
      show (if _ = r then Out.ok else Out.errMerkle) ≠ .panic
      split <;> exact nofun
  · rw [if_neg he]
    exact nofun

theorem checkPost_complete {de : Nat} {entry : Option Hash} {u : Bool} {T B tb te : Tree} {slot : Nat}
    (htab : entry = some (root H T))
    (hT : nodeAt T d idx = some tb) (hTB : root H tb = root H B)
    (hB : nodeAt B de g = some te) (hte : root H te = hash) :
    ∃ bp ep, prove H T d idx = some (bp, root H B) ∧ prove H B de g = some (ep, hash) ∧
      bp.length = d ∧ ep.length = de ∧ checkPost H g d idx entry u hash (mkPM bp (root H B) ep slot) = .ok := by
  obtain ⟨bp, hbp, hbl, hbf⟩ := honest_verifies H hT
  obtain ⟨ep, hep, hel, hef⟩ := honest_verifies H hB
  rw [hTB] at hbp hbf
  rw [hte] at hep hef
  refine ⟨bp, ep, hbp, hep, hbl, hel, (checkPost_ok_iff H).2 ⟨hef, ?_⟩⟩
  show entry = some (fold H (root H B) (bp.take d) idx)
  rw [← hbl, List.take_length, hbf, htab]

/-- `T` and `B` are ANY openings of the table entry and of the proof's beacon block root -/
theorem checkPost_sound {entry : Option Hash} {u : Bool}
    (hok : checkPost H g d idx entry u hash p = .ok) (hbl : d ≤ p.bproof.length) (T B : Tree)
    (hT : entry = some (root H T)) (hB : root H B = p.broot) :
    ((∃ tb, nodeAt T d idx = some tb ∧ root H tb = p.broot) ∨ Collision H ∨ LeafPre H T) ∧
    ((∃ te, nodeAt B p.eproof.length g = some te ∧ root H te = hash) ∨ Collision H ∨ LeafPre H B) := by
  obtain ⟨h1, h2⟩ := (checkPost_ok_iff H).1 hok
  rw [hT] at h2
  exact ⟨sound_take H hbl (Option.some.inj h2).symm, sound H (h1.trans hB.symm)⟩

theorem checkPost_unique {entry : Option Hash} {u u' : Bool} {hash' : Hash} {p' : PM}
    (hb : p.bproof.length = d) (hb' : p'.bproof.length = d) (he : p.eproof.length = p'.eproof.length)
    (h1 : checkPost H g d idx entry u hash p = .ok) (h2 : checkPost H g d idx entry u' hash' p' = .ok) :
    (hash = hash' ∧ p.broot = p'.broot ∧ p.bproof = p'.bproof ∧ p.eproof = p'.eproof) ∨ Collision H := by
  obtain ⟨e1, f1⟩ := (checkPost_ok_iff H).1 h1
  obtain ⟨e2, f2⟩ := (checkPost_ok_iff H).1 h2
  rw [← hb, List.take_length] at f1
  rw [← hb', List.take_length, f1] at f2
  rcases fold_inj H (hb.trans hb'.symm) (Option.some.inj f2) with ⟨hbr, hbp⟩ | hc
  · rcases fold_inj H he (e1.trans (hbr.trans e2.symm)) with ⟨hh, hep⟩ | hc
    · exact .inl ⟨hh, hbr, hbp, hep⟩
    · exact .inr hc
  · exact .inr hc

/-- the summary index is the batch number counted from the first Capella slot -/
theorem summaryIndex_capella (slot : Nat) (h1 : capellaStart ≤ slot) (h2 : slot < 2 ^ 64) :
    summaryIndex slot = (slot - capellaStart) / epochSize := by
  rw [summaryIndex, Nat.sub_add_comm h1, Nat.add_mod_right, Nat.mod_eq_of_lt (Nat.lt_of_le_of_lt (Nat.sub_le ..) h2)]

/-- a pre-Capella slot wraps around to an index no realistic table contains -/
theorem summaryIndex_wrap (slot : Nat) (h1 : slot < capellaStart) :
    2 ^ 50 ≤ summaryIndex slot := by
  -- `slot + 2^64 - capellaStart` stays below 2^64, and is at least `2^50 * 8192` because `capellaStart` is small
  have hle : 2 ^ 50 * epochSize + capellaStart ≤ slot + 2 ^ 64 := Nat.le_trans (by decide) (Nat.le_add_left ..)
  rw [summaryIndex, Nat.mod_eq_of_lt, Nat.le_div_iff_mul_le (by decide)]
  · exact Nat.le_sub_of_add_le hle
  · exact Nat.sub_lt_left_of_lt_add (Nat.le_trans (Nat.le_add_left ..) hle) (Nat.add_lt_add_right h1 _)

theorem lookupSummary_none_of_short (t : Tables) (slot : Nat)
    (hc : t.summaries.length ≤ summaryIndex slot)
    (ho : match t.oracle with | .answers l => l.length ≤ summaryIndex slot | _ => True) :
    lookupSummary t slot = none := by
  unfold lookupSummary
  rw [List.getElem?_eq_none hc]
  cases hor : t.oracle with
  | absent => rfl
  | failing => rfl
  | answers l =>
    rw [hor] at ho
    exact List.getElem?_eq_none ho

theorem chunks_length (b : List Nat) (first n : Nat) : (chunks b first n).length = n := by
  simp [chunks]

theorem decodePM_lengths (nb ne : Nat) (b : List Nat) (p : PM) (h : decodePM nb ne b = some p) :
    p.bproof.length = nb ∧ p.eproof.length = ne ∧ b.length = 32 * (nb + 1 + ne) + 8 := by
  unfold decodePM at h
  split at h
  · next size =>
    cases h
    exact ⟨chunks_length _ _ _, chunks_length _ _ _, size⟩
  · cases h

theorem chunksOf_length (b : List Nat) (s : List Hash) (h : chunksOf b = some s) : b.length = 32 * s.length := by
  unfold chunksOf at h
  split at h
  · next whole =>
    cases h
    rw [chunks_length, Nat.mul_div_cancel' (Nat.dvd_of_mod_eq_zero whole)]
  · cases h

/-- size of the proof bytes each era accepts -/
def eraSize : Era → Nat
  | .preMerge => 32 * 15
  | .bellatrix => 840
  | .capella => 808
  | .deneb => 840

theorem eraOf_pre (n : Nat) (h : n < mergeBlock) : eraOf n = .preMerge := if_pos h
theorem eraOf_bell (n : Nat) (h1 : mergeBlock ≤ n) (h2 : n < shanghaiBlock) : eraOf n = .bellatrix := by
  rw [eraOf, if_neg (Nat.not_lt.2 h1), if_pos h2]
theorem eraOf_cap (n : Nat) (h1 : shanghaiBlock ≤ n) (h2 : n < cancunBlock) : eraOf n = .capella := by
  rw [eraOf, if_neg (Nat.not_lt.2 (Nat.le_trans (by decide) h1)), if_neg (Nat.not_lt.2 h1), if_pos h2]
theorem eraOf_deneb (n : Nat) (h1 : cancunBlock ≤ n) : eraOf n = .deneb := by
  have h2 : shanghaiBlock ≤ n := Nat.le_trans (by decide) h1
  rw [eraOf, if_neg (Nat.not_lt.2 (Nat.le_trans (by decide) h2)), if_neg (Nat.not_lt.2 h2), if_neg (Nat.not_lt.2 h1)]

theorem validate_premerge (q : Quirks) (t : Tables) (n : Nat) (hash : Hash) (proof : List Nat) (h : n < mergeBlock) :
    validate H q t n hash proof = validatePre H q t n hash (chunksOf proof) := by
  rw [validate, eraOf_pre n h]

theorem validate_bellatrix (q : Quirks) (t : Tables) (n : Nat) (hash : Hash) (proof : List Nat) (p : PM)
    (h1 : mergeBlock ≤ n) (h2 : n < shanghaiBlock) (hd : decodePM 14 11 proof = some p) :
    validate H q t n hash proof = validateBell H q t hash p := by
  rw [validate, eraOf_bell n h1 h2, hd]

theorem validate_capella (q : Quirks) (t : Tables) (n : Nat) (hash : Hash) (proof : List Nat) (p : PM)
    (h1 : shanghaiBlock ≤ n) (h2 : n < cancunBlock) (hd : decodePM 13 11 proof = some p) :
    validate H q t n hash proof = validateSumm H gindexBellatrix t hash p := by
  rw [validate, eraOf_cap n h1 h2, hd]

theorem validate_deneb (q : Quirks) (t : Tables) (n : Nat) (hash : Hash) (proof : List Nat) (p : PM)
    (h1 : cancunBlock ≤ n) (hd : decodePM 13 12 proof = some p) :
    validate H q t n hash proof = validateSumm H gindexDeneb t hash p := by
  rw [validate, eraOf_deneb n h1, hd]

/-! ## the epoch tree commits record `r`'s block hash at the validator's index -/

theorem epochChunk_even (recs : List (Hash × Hash)) (r : Nat) : epochChunk recs (2 * r) = (recAt recs r).1 := by
  rw [epochChunk, if_pos (Nat.mul_mod_right ..), Nat.mul_div_cancel_left _ (by decide)]

theorem epochTree_nodeAt (recs : List (Hash × Hash)) (n : Nat) :
    nodeAt (epochTree recs) 15 (preIndex n) = some (.leaf (recAt recs (n % epochSize)).1) := by
  obtain ⟨h1, h2⟩ := preIndex_divMod n
  rw [epochTree, nodeAt_node, h1, pick_even (i := 2) rfl, nodeAt_build, h2, epochChunk_even]

/-- pre-merge: the proof the model prover builds for record `n mod 8192` of an epoch whose root is the trusted
    entry `n / 8192` verifies -/
theorem complete_premerge (q : Quirks) (t : Tables) (recs : List (Hash × Hash)) (n : Nat) (hash td : Hash)
    (htab : t.epochs[n / epochSize]? = some (epochRoot H recs))
    (hrec : recs[n % epochSize]? = some (hash, td)) :
    ∃ sib, proveEpoch H recs n = some sib ∧ sib.length = 15 ∧ validatePre H q t n hash (some sib) = .ok := by
  have hnode := epochTree_nodeAt recs n
  rw [show recAt recs (n % epochSize) = (hash, td) by rw [recAt, hrec]] at hnode
  obtain ⟨br, hbr, hlen, hfold⟩ := honest_verifies H hnode
  exact ⟨br, by rw [proveEpoch, hbr]; rfl, hlen,
    (validatePre_ok_iff H).2 ⟨br, rfl, hlen, htab.trans (congrArg some hfold.symm)⟩⟩

end Hp
