import Shisui.FindContent
import Shisui.Framing
import Shisui.Versions
import Driver.Util
/-! C08 driver: `handleFindContent` (deterministic given the real sort order of the table) and end-to-end transfers. -/
namespace Drv.C08
open Drv Fc

/-- maxPacketSize − talkRespOverhead − (msg id + selector) -/
def payloadMax : Nat := 1280 - 103 - 2

def parseNats (s : String) : List Nat := if s == "-" || s == "" then [] else (s.splitOn ",").filterMap String.toNat?

def sortedLogB : List N → Bool
  | a :: b :: r => a.logd ≤ b.logd && sortedLogB (b :: r)
  | _ => true

def stepFind (toks : List String) (impl : String) : Res :=
  let asker := kvNat toks "asker"
  let st := kv toks "stored"
  let stored : Option Nat := if st == "-1" then none else some st.toNat!
  let tabS := kv toks "tab"
  let tab : List N := if tabS == "-" then [] else (tabS.splitOn ",").map fun e =>
    let p := e.splitOn ":"
    ({ id := (p.getD 0 "").toNat!, logd := (p.getD 1 "").toNat!, enrLen := (p.getD 2 "").toNat! } : N)
  let sortedIds := parseNats (kv toks "sorted")
  let sorted := sortedIds.filterMap fun i => tab.find? (·.id == i)
  let it := words impl
  let total := kvNat it "total"
  let m := match stored with
    | none => s!"enrs={let l := (enrsReply sorted asker payloadMax).map (·.id); if l.isEmpty then "-" else ",".intercalate (l.map toString)}"
    | some len => if len ≤ payloadMax then s!"raw={len} same=1" else "connid"
  -- what findNodesCloseToContent must deliver: table records only, non-decreasing log distance, the 32 closest
  let rest := tab.filter fun n => !sortedIds.contains n.id
  let maxIn := (sorted.map (·.logd)).foldl max 0
  let closestOk := sorted.length == min 32 tab.length && rest.all (fun n => maxIn ≤ n.logd) &&
                   sortedIds.eraseDups.length == sortedIds.length && sorted.length == sortedIds.length
  let res := parseNats (kv it "enrs")
  let mon := (if it.headD "" == "error" || it.headD "" == "undecodable" || it.headD "" == "badselector" then ["reply_wellformed"] else [])
    ++ (if total + 103 > 1280 then ["fits_one_packet"] else [])
    ++ (if !sortedLogB sorted then ["nondecreasing_logdist"] else [])
    ++ (if !closestOk then ["closest_from_table"] else [])
    ++ (if stored.isNone && !sortedLogB (res.filterMap fun i => tab.find? (·.id == i)) then ["reply_nondecreasing_logdist"] else [])
    ++ (if stored.isNone && res.contains asker && asker != 0 then ["never_the_asker"] else [])
    ++ (if stored.isNone && res.any (fun i => !(tab.any (·.id == i))) then ["only_table_records"] else [])
    ++ (if stored.isSome && (kv it "raw") != "" && kv it "same" != "1" then ["inline_bytes_equal_stored"] else [])
    -- a key the node holds is answered with the content (inline or by a connection id), never with closer peers
    ++ (if stored.isSome && (kv it "enrs") != "" then ["held_content_is_served"] else [])
  { model := m, implView := some (project ["enrs", "raw", "same"] impl), monitor := mon,
    tags := ["findcontent", match stored with | none => "absent" | some l => if l ≤ payloadMax then "inline" else "stream",
             if asker == 0 then "stranger" else "asker-in-table", s!"tab{min tab.length 33}"],
    nontrivial := tab.length > 2 }

def stepTransfer (toks : List String) (impl : String) : Res :=
  let size := kvNat toks "size"
  let flag := if size ≤ payloadMax then 1 else 0
  let it := words impl
  let stalled := kv toks "stalled" == "1"
  -- a stalled transfer cut short by the asker's shutdown may end with an error; what it may not do is hand over other bytes
  let mon := if stalled then (if impl == "error" || kv it "same" == "1" then [] else ["transfer_bytes_equal_stored"]) else
    (if kv it "same" != "1" then ["transfer_bytes_equal_stored"] else [])
    ++ (if kv it "maxdgram_ok" != "1" then ["fits_one_packet"] else [])
  { model := if stalled then impl else s!"flag={flag} same=1 maxdgram_ok=1", monitor := mon,
    tags := ["transfer", if flag == 1 then "inline" else "utp", "va" ++ kv toks "va", "vb" ++ kv toks "vb"] }

def step (toks : List String) (impl : String) : Res :=
  match toks.head? with
  | some "findcontent" => stepFind toks impl
  | some "transfer" => stepTransfer toks impl
  | some "transfer-ping" => { model := "ok", skipCompare := true, monitor := ["peers_reachable"], tags := ["ping-fail"] }
  | _ => { model := "bad-op", tags := ["bad-op"], nontrivial := false }

end Drv.C08
