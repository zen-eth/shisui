import Shisui.Table.Reval
import Driver.Util
/-! Routing-table driver (C07, C18): replays add / delete / revalidation / lookup-feedback histories recorded from the
    real `portalwire.Table` through `Tb.step2`, compares full snapshots, and evaluates the structural invariant (C07) and
    the displacement policy (C18) on the IMPLEMENTATION's snapshots. -/
namespace Drv.Table
open Drv Tb

/-- `netutil.AddrIsLAN` for IPv4: loopback, RFC1918 private, link-local -/
def isLAN (a b : Nat) : Bool :=
  a == 127 || a == 10 || (a == 172 && b ≥ 16 && b ≤ 31) || (a == 192 && b == 168) || (a == 169 && b == 254)

/-- the /24 key of every v4-mapped address (`::ffff:a.b.c.d` lies in `::/24`): a number no IPv4 /24 has -/
def mappedNet : Nat := 2 ^ 24

def parseIP (s : String) : Addr :=
  if s == "none" then { subnet := 0, host := 0, lan := false, valid := false } else
  let mapped := s.startsWith "m"
  let s := if mapped then (s.drop 1).toString else s
  match (s.splitOn ".").map String.toNat! with
  | [a, b, c, d] =>
    if mapped then
      -- `AddrIsLAN` unmaps first; the address itself and its /24 are those of the IPv6 form
      { subnet := mappedNet, host := a * 16777216 + b * 65536 + c * 256 + d, lan := isLAN a b, valid := true }
    else
      { subnet := a * 65536 + b * 256 + c, host := d, lan := isLAN a b,
        valid := !(a == 0 && b == 0 && c == 0 && d == 0) }
  | _ => { subnet := 0, host := 0, lan := false, valid := false }

def showIP (a : Addr) : String :=
  if !a.valid then "none"
  else if a.subnet == mappedNet then
    s!"m{a.host / 16777216}.{a.host / 65536 % 256}.{a.host / 256 % 256}.{a.host % 256}"
  else s!"{a.subnet / 65536}.{a.subnet / 256 % 256}.{a.subnet % 256}.{a.host}"

structure TD where
  t : Table := emptyTable 0
  selfId : Nat := 0               -- 256-bit id of the local node
  bo : List (Nat × Nat) := []     -- id index ↦ bucket computed from the log distance
  recs : List (Nat × Rec) := []   -- record index ↦ record
  subnets : List Nat := []
  slow : List Nat := []           -- oids on the slow revalidation list (entries not listed are on the fast one)
  active : List (Nat × Nat) := [] -- started revalidation requests: (id, oid)
  prev : String := ""             -- previous implementation snapshot
  initDone : Bool := true         -- the table's initial seeding phase is over (inbound contacts are added)

def boOf (d : TD) (id : Nat) : Nat := match d.bo.find? (·.1 == id) with | some p => p.2 | none => 0
def recOf (d : TD) (k : Nat) : Option Rec := (d.recs.find? (·.1 == k)).map (·.2)

def beValN (l : List Nat) : Nat := l.foldl (fun a b => a * 256 + b) 0
def bitLen (n : Nat) : Nat := if n = 0 then 0 else Nat.log2 n + 1
/-- `bucketAtDistance (enode.LogDist self id)` -/
def bucketOfIds (selfId id : Nat) : Nat := bitLen (selfId ^^^ id) - 239 - 1

def cntOf (l : List (Nat × Nat)) : Cnt := fun s => match l.find? (·.1 == s) with | some p => p.2 | none => 0

/-- rebuild the function-valued maps from their values on the finite domain in use (keeps closures shallow) -/
def compact (subnets : List Nat) (t : Table) : Table :=
  let bs := (List.range 17).map fun i =>
    let b := t.bkt i
    ({ b with ips := cntOf (subnets.map fun s => (s, b.ips s)) } : Bucket)
  let arr := bs.toArray
  let empty : Bucket := { entries := [], reps := [], ips := fun _ => 0 }
  { t with bkt := fun k => arr.getD k empty, ips := cntOf (subnets.map fun s => (s, t.ips s)) }

def showEntry (slow : List Nat) (n : TNode) : String :=
  s!"{n.r.id}/{showIP n.r.addr}/{n.r.port}/{n.r.seq}/{n.checks}/{if n.live then 1 else 0}/{if slow.contains n.oid then "S" else "F"}"
def showRep (n : TNode) : String := s!"{n.r.id}/{showIP n.r.addr}/{n.r.port}/{n.r.seq}"

def allEntries (t : Table) : List TNode := (List.range 17).flatMap fun i => (t.bkt i).entries

def sortNat (l : List Nat) : List Nat := (l.toArray.qsort (· < ·)).toList
def showIds (l : List Nat) : String := ",".intercalate ((sortNat l).map toString)

def snap (d : TD) : String :=
  let t := d.t
  let parts := (List.range 17).filterMap fun i =>
    let b := t.bkt i
    if b.entries.isEmpty && b.reps.isEmpty && d.subnets.all (fun s => b.ips s == 0) then none else
    some s!"b{i}:e={",".intercalate (b.entries.map (showEntry d.slow))};r={",".intercalate (b.reps.map showRep)};c={",".intercalate (d.subnets.map fun s => toString (b.ips s))}"
  let es := allEntries t
  let fast := (es.filter fun n => !d.slow.contains n.oid).map (·.r.id)
  let slow := (es.filter fun n => d.slow.contains n.oid).map (·.r.id)
  s!"{" ".intercalate parts} T={",".intercalate (d.subnets.map fun s => toString (t.ips s))} F={showIds fast} S={showIds slow} A={showIds (d.active.map (·.1))}"

/-- revalidation-list bookkeeping common to all operations: objects that left the entries leave the lists; an entry
    whose endpoint changed is moved to the fast list (`nodeEndpointChanged`) -/
def fixLists (before after : Table) (slow : List Nat) : List Nat :=
  let eb := allEntries before
  let ea := allEntries after
  slow.filter fun oid =>
    match ea.find? (·.oid == oid) with
    | none => false
    | some n =>
      match eb.find? (·.oid == oid) with
      | none => false       -- (re)entered the entries: starts on the fast list
      | some m => m.r.addr == n.r.addr && m.r.port == n.r.port

/-! ### parsing the implementation snapshot (for the monitors) -/

structure PNode where
  id : Nat
  ip : Addr
  port : Nat
  seq : Nat
  checks : Nat := 0
  live : Bool := false
  list : String := "-"

structure PBucket where
  idx : Nat
  entries : List PNode
  reps : List PNode
  cnt : List Nat

def parseNode (s : String) : Option PNode :=
  match s.splitOn "/" with
  | [id, ip, port, seq] => some { id := id.toNat!, ip := parseIP ip, port := port.toNat!, seq := seq.toNat! }
  | [id, ip, port, seq, ch, lv, l] =>
    some { id := id.toNat!, ip := parseIP ip, port := port.toNat!, seq := seq.toNat!, checks := ch.toNat!, live := lv == "1", list := l }
  | _ => none

def parseList (s : String) : List PNode := if s == "" then [] else (s.splitOn ",").filterMap parseNode

def parseBucket (tok : String) : Option PBucket :=
  match tok.splitOn ":" with
  | [b, rest] =>
    match rest.splitOn ";" with
    | [e, r, c] => some { idx := (b.drop 1).toNat!, entries := parseList (e.drop 2).toString, reps := parseList (r.drop 2).toString,
                          cnt := ((c.drop 2).toString.splitOn ",").map String.toNat! }
    | _ => none
  | _ => none

def parseSnap (s : String) : List PBucket := (words s).filterMap fun t => if t.startsWith "b" then parseBucket t else none
def setOf (s : String) (key : String) : List Nat :=
  let v := kv (words s) key
  if v == "" then [] else (v.splitOn ",").map String.toNat!

def countSub (l : List PNode) (s : Nat) : Nat := (l.filter fun n => n.ip.valid && !n.ip.lan && n.ip.subnet == s).length

/-- C07 on the implementation's snapshot -/
def invMonitor (d : TD) (selfIdx : Nat) (impl : String) : List String :=
  let bs := parseSnap impl
  let all := bs.flatMap fun b => b.entries ++ b.reps
  let ids := all.map (·.id)
  let subs := (all.filter fun n => n.ip.valid && !n.ip.lan).map (·.ip.subnet) |>.eraseDups
  let ents := bs.flatMap (·.entries)
  let fastS := setOf impl "F"
  let slowS := setOf impl "S"
  (if bs.any fun b => b.entries.length > 16 then ["bucket_le_16"] else [])
  ++ (if bs.any fun b => b.reps.length > 10 then ["replacements_le_10"] else [])
  ++ (if ids.eraseDups.length != ids.length then ["id_unique"] else [])
  ++ (if ids.contains selfIdx then ["self_absent"] else [])
  ++ (if bs.any fun b => (b.entries ++ b.reps).any fun n => boOf d n.id != b.idx then ["bucket_is_logdist"] else [])
  ++ (if bs.any fun b => subs.any fun s => countSub (b.entries ++ b.reps) s > 2 then ["bucket_ip_limit"] else [])
  ++ (if subs.any fun s => countSub all s > 10 then ["table_ip_limit"] else [])
  ++ (if ents.any (fun n => !(n.list == "F" && fastS.contains n.id && !slowS.contains n.id) &&
                              !(n.list == "S" && slowS.contains n.id && !fastS.contains n.id))
         || fastS.length + slowS.length != ents.length then ["reval_lists_agree"] else [])

/-- C18 on two consecutive implementation snapshots and the operation between them -/
def policyMonitor (d : TD) (toks : List String) (prevS impl : String) : List String :=
  let pb := parseSnap prevS
  let nb := parseSnap impl
  let pe := pb.flatMap (·.entries)
  let ne := nb.flatMap (·.entries)
  let op := toks.head?.getD ""
  let opId : Nat := match toks with
    | _ :: a :: _ => if op == "revalstart" then 100000 else
                     if a.startsWith "i" then ((a.drop 1).toNat?).getD 100000 else
                     if a.startsWith "r" then ((recOf d (((a.drop 1).toNat?).getD 100000)).map (·.id)).getD 100000 else 100000
    | _ => 100000
  let left := pe.filter fun n => !(ne.any (·.id == n.id))
  let m1 := if left.all (fun n =>
      n.id == opId &&
      ((op == "del") ||
       (op == "revalresp" && kv toks "responded" == "0" && n.checks / 3 == 0) ||
       (op == "track" && kv toks "success" == "0" && kvNat toks "fails" ≥ 5 &&
          ((pb.find? (·.idx == boOf d n.id)).map (·.entries.length)).getD 0 ≥ 4)))
    then [] else ["entry_leaves_only_if"]
  -- an entry that left is succeeded by a replacement when one existed
  let m2 := if left.all (fun n =>
      match pb.find? (·.idx == boOf d n.id), nb.find? (·.idx == boOf d n.id) with
      | some b0, some b1 => b0.reps.isEmpty || (b1.entries.length == b0.entries.length && b1.reps.length + 1 == b0.reps.length)
      | some b0, none => b0.reps.isEmpty
      | _, _ => true)
    then [] else ["successor_from_replacements"]
  -- records change only to a higher sequence number, or when the node itself contacted us; endpoint change unverifies
  let inboundAdd := op == "add" && kv toks "inbound" == "1"
  let m3 := if ne.all (fun n =>
      match pe.find? (·.id == n.id) with
      | none => true
      | some m =>
        let changed := !(m.ip == n.ip && m.port == n.port && m.seq == n.seq)
        !changed || ((n.seq > m.seq || (inboundAdd && n.id == opId)) && (m.ip == n.ip && m.port == n.port || !n.live)))
    then [] else ["record_change_rule"]
  -- a newcomer to a full bucket touches no entry; it can only become the first replacement
  let m4 := if op == "add" then
      match pb.find? (·.idx == boOf d opId), nb.find? (·.idx == boOf d opId) with
      | some b0, some b1 =>
        if b0.entries.length == 16 && !(b0.entries.any (·.id == opId)) then
          if b1.entries.map (·.id) == b0.entries.map (·.id) &&
             (b1.reps.map (·.id) == b0.reps.map (·.id) || b1.reps.map (·.id) == (opId :: b0.reps.map (·.id)).take 10) then []
          else ["full_bucket_newcomer"]
        else []
      | _, _ => []
    else []
  -- liveness credit
  let m5 := if op == "revalresp" then
      match pe.find? (·.id == opId), ne.find? (·.id == opId) with
      | some m, some n =>
        if kv toks "responded" == "1" then (if (n.checks == m.checks + 1 && (n.live || !(m.ip == n.ip && m.port == n.port))) || n.checks == m.checks then [] else ["credit_rule"])
        else (if n.checks == m.checks / 3 || n.checks == m.checks then [] else ["credit_rule"])
      | _, _ => []
    else []
  -- the liveness result handed to the table is the PING's result (a failed follow-up record request is not a failed check)
  let m6 := if op == "revalresp" && kv toks "reported" != "" && kv toks "reported" != kv toks "responded" then ["liveness_result_is_ping_result"] else []
  m1 ++ m2 ++ m3 ++ m4 ++ m5 ++ m6

def parseRecRef (d : TD) (s : String) : Option Rec := recOf d ((s.drop 1).toNat!)

def finishOp (d : TD) (prop : String) (toks : List String) (impl : String) (t' : Table) (slow : List Nat)
    (active : List (Nat × Nat)) (pre : String) (tags : List String) : TD × Res :=
  let t'' := compact d.subnets t'
  let slow' := fixLists d.t t'' slow
  let d' := { d with t := t'', slow := slow', active := active }
  let selfIdx := d.t.self
  -- "at most 10 replacements" is stated by both properties
  let inv := invMonitor d selfIdx impl
  let mon := (if prop == "C18" then inv.filter (· == "replacements_le_10") else inv) ++ (if prop == "C07" then [] else policyMonitor d toks d.prev impl)
  let out : Res := { model := pre ++ snap d', monitor := mon, tags := tags, nontrivial := (allEntries d.t).length ≥ 8 }
  ({ d' with prev := impl }, out)

def step (prop : String) (d : TD) (toks : List String) (impl : String) : TD × Res :=
  match toks with
  | "tabinit" :: _ =>
    let selfId := beValN (unhex (kv toks "self"))
    let subs := ((kv toks "subnets").splitOn ",").map fun s => (parseIP (s ++ ".0")).subnet
    ({ selfId := selfId, subnets := subs, t := emptyTable 0, initDone := kv toks "initdone" != "0" },
     { model := "ok", tags := ["tabinit", if kv toks "initdone" == "0" then "pre-init" else "init-done"], nontrivial := false })
  | ["initdone"] =>
    -- the end of the seeding phase changes nothing in the table
    finishOp { d with initDone := true } prop toks impl d.t d.slow d.active "" ["initdone"]
  | ["id", i, hexid, b] =>
    let idx := (i.drop 1).toNat!
    let idv := beValN (unhex hexid)
    let isSelf := idv == d.selfId
    let bucket := if isSelf then 0 else bucketOfIds d.selfId idv
    let claimed := ((b.splitOn "=").getD 1 "0").toNat!
    let d' := { d with bo := d.bo ++ [(idx, bucket)], t := if isSelf then { d.t with self := idx } else d.t }
    (d', { model := "ok", monitor := if !isSelf && claimed != bucket then ["bucket_is_logdist"] else [], tags := ["id"], nontrivial := false })
  | "rec" :: k :: i :: _ =>
    let addr := parseIP (kv toks "ip")
    let r : Rec := { id := (i.drop 1).toNat!, addr := addr, port := kvNat toks "port", seq := kvNat toks "seq" }
    let lanGo := kv toks "lan" == "1"
    ({ d with recs := ((k.drop 1).toNat!, r) :: d.recs },
     { model := "ok", monitor := if addr.valid && addr.lan != lanGo then ["lan_classification"] else [], tags := ["rec"], nontrivial := false })
  | "add" :: k :: _ =>
    match parseRecRef d k with
    | none => (d, { model := "bad-rec" })
    | some r =>
      -- during the seeding phase a node that contacted us is not added (and nothing else happens)
      if !d.initDone && kv toks "inbound" == "1" then
        finishOp d prop toks impl d.t d.slow d.active "ret=0 " ["add", "add-refused-pre-init"]
      else
      let res := handleAddNode (boOf d) d.t r (kv toks "inbound" == "1") (kv toks "live" == "1")
      finishOp d prop toks impl res.1 d.slow d.active s!"ret={if res.2 then 1 else 0} "
        ["add", if res.2 then "add-new" else if (d.t.bkt (boOf d r.id)).entries.length ≥ 16 then "add-full" else "add-other"]
  | ["loadseeds", ks] =>
    -- the seed-loading step (table construction, every refresh): each boot node goes through the add of a found node, in order
    let refs := (ks.splitOn ",").filterMap (parseRecRef d)
    let t' := refs.foldl (fun t r => (handleAddNode (boOf d) t r false false).1) d.t
    finishOp d prop toks impl t' d.slow d.active "" ["loadseeds", s!"n{refs.length}"]
  | "del" :: k :: _ =>
    match parseRecRef d k with
    | none => (d, { model := "bad-rec" })
    | some r => finishOp d prop toks impl (deleteInBucket d.t (boOf d r.id) r.id (kvNat toks "rnd")) d.slow d.active "" ["del"]
  | ["revalstart", ids] =>
    let started := ((ids.splitOn ",").drop 1).map fun s => (s.drop 1).toNat!
    let act := started.foldl (fun (acc : Option (List (Nat × Nat))) id =>
      match acc with
      | none => none
      | some a =>
        match (d.t.bkt (boOf d id)).entries.find? (·.r.id == id) with
        | none => none                       -- a request for a node that is not an entry
        | some n => if a.any (·.1 == id) then none else some ((id, n.oid) :: a)) (some d.active)
    match act with
    | none => (d, { model := "bad-start" })
    | some a => finishOp d prop toks impl d.t d.slow a "" ["revalstart", s!"started{started.length}"]
  | "revalresp" :: i :: _ =>
    let id := (i.drop 1).toNat!
    match d.active.find? (·.1 == id) with
    | none => (d, { model := "bad-resp" })
    | some (_, oid) =>
      let active := d.active.filter (·.1 != id)
      let nr := kv toks "newrec"
      let applies := ((d.t.bkt (boOf d id)).entries.find? (·.r.id == id)).any (·.oid == oid)
      if kv toks "responded" == "0" then
        let t' := revalFail d.t (boOf d id) id oid (kvNat toks "rnd")
        -- a node that keeps some credit goes (back) to the fast list
        finishOp d prop toks impl t' (d.slow.filter (· != oid)) active "" ["revalresp", if applies then "reval-fail" else "reval-stale"]
      else
        let newRec := if nr == "-" then none else parseRecRef d nr
        let t' := revalOk d.t (boOf d id) id oid newRec
        -- it moves to the slow list unless its endpoint changed (handled by fixLists)
        finishOp d prop toks impl t' (if applies then oid :: d.slow.filter (· != oid) else d.slow) active ""
          ["revalresp", if applies then (if newRec.isSome then "reval-ok-newrec" else "reval-ok") else "reval-stale"]
  | "track" :: k :: _ =>
    match parseRecRef d k with
    | none => (d, { model := "bad-rec" })
    | some r =>
      let found := (((kv toks "found").splitOn ",").drop 1).filterMap (parseRecRef d)
      let fails := kvNat toks "fails"
      let t' := trackRequest (boOf d) d.t r.id fails (kvNat toks "rnd") found
      finishOp d prop toks impl t' d.slow d.active "" ["track", if fails ≥ 5 then "track-fails5" else "track-other"]
  | "tsnap" :: _ =>
    -- concurrent drive of the running loop: the order of application is unknown, only the invariant is judged.
    -- The revalidation-list clause is judged on drained snapshots only (a running snapshot can fall between the two
    -- updates of one handler, which take the table mutex separately).
    let selfIdx := d.t.self
    let mon := (invMonitor d selfIdx impl).filter fun c => c != "reval_lists_agree" || kv toks "phase" == "drained"
    (d, { model := "", skipCompare := true, monitor := if prop == "C18" then mon.filter (· == "replacements_le_10") else mon, tags := ["tsnap", kv toks "phase"] })
  | "tabpanic" :: _ => (d, { model := "no-panic", monitor := ["table_operation_panics"], tags := ["tabpanic"] })
  | _ => (d, { model := "bad-op", tags := ["bad-op"], nontrivial := false })

end Drv.Table
