import Shisui.Framing
import Driver.Util
/-! C15 driver: stream framing. -/
namespace Drv.C15
open Drv Fr

def okItems (o : Option (List (List Nat))) : String :=
  match o with
  | some xs => "ok " ++ canonItems xs
  | none => "err"

def isPrefixOf {α} [BEq α] (p l : List α) : Bool := p.length ≤ l.length && l.take p.length == p

/-- specification-level reading of a LEB128 number: all continuation bytes, unbounded -/
def rawVarint : List Nat → Nat → Nat → Option (Nat × Nat)
  | [], _, _ => none
  | b :: rest, sh, acc => if b < 128 then some (acc + b * 2 ^ sh, 1) else
      match rawVarint rest (sh + 7) (acc + (b % 128) * 2 ^ sh) with
      | some (v, n) => some (v, n + 1)
      | none => none

/-- why a stream must be rejected according to the property's own words (independent of the model decoder):
    a cut varint, a varint of 2^32 or more, or a prefix exceeding the remaining bytes, at any item boundary -/
def mustReject : Nat → List Nat → Option String
  | 0, _ => none
  | fuel + 1, data =>
    if data.isEmpty then none else
    match rawVarint data 0 0 with
    | none => some "truncated_rejected"
    | some (v, n) =>
      if v ≥ 2 ^ 32 then some "varint_overflow_rejected"
      else if data.length < n + v then some "overlong_prefix_rejected"
      else mustReject fuel (data.drop (n + v))

def rejectMonitor (single : Bool) (b : List Nat) (impl : String) : List String :=
  if impl == "err" then [] else
  if impl == "panic" then ["rejected_with_error_not_panic"] else
  match mustReject (if single then 1 else b.length + 1) b with
  | some c => [c]
  | none => []

def step (toks : List String) (impl : String) : Res :=
  match toks with
  | ["retainenc", what, _] =>
    -- the joined stream kept from one call still is that stream after the next call
    { model := "changed=0", monitor := if impl == "changed=0" then [] else ["join_result_stable"], tags := ["retainenc", what], nontrivial := false }
  | ["concframing", _, _] =>
    -- joining and splitting from several goroutines at once: every call gives what it gives alone (the model is a function)
    { model := "diffs=0", monitor := if impl == "diffs=0" then [] else ["same_result_when_called_concurrently"], tags := ["concframing"] }
  | ["hugeenc", lens] =>
    -- items too large to spell out (all-zero values of the given lengths): the stream's size and every length prefix come from
    -- the lengths alone (`Fr.encContents_length`), the values are compared by the harness
    let ns := (lens.splitOn ",").filterMap String.toNat?
    let prefixes := ",".intercalate (ns.map fun n => canon (enc n))
    { model := s!"outlen={streamLen ns} prefixes={prefixes} bodies=1 rt=same",
      monitor := if (words impl).getLast? == some "rt=same" then [] else ["roundtrip"],
      tags := ["hugeenc", s!"n{ns.length}"] }
  | ["enc", items] =>
    let xs := parseItems items
    { model := canon (encContents xs), tags := ["enc", s!"n{min xs.length 65}"], nontrivial := xs.length > 1 }
  | ["dec", bs] =>
    let b := parseBytes bs
    let r := decContents b
    { model := okItems r, monitor := rejectMonitor false b impl, tags := ["dec", if r.isSome then "dec-ok" else "dec-err"], nontrivial := b.length > 1 }
  | ["dec1", bs] =>
    let b := parseBytes bs
    match decSingle b with
    | some (c, rest) => { model := "ok " ++ canon c ++ " " ++ canon rest, monitor := rejectMonitor true b impl, tags := ["dec1", "dec1-ok"] }
    | none => { model := "err", monitor := rejectMonitor true b impl, tags := ["dec1", "dec1-err"] }
  | ["rt", items] =>
    -- implementation-side round trip: Go decodeContents(encodeContents xs) == xs
    let xs := parseItems items
    let m := if decContents (encContents xs) == some xs then "same" else "diff"
    { model := m, monitor := if impl == "same" then [] else ["roundtrip"], tags := ["rt"], nontrivial := xs.length > 0 }
  | ["trunc", items, cut] =>
    -- a valid stream cut after `cut` bytes must be rejected or yield a prefix of the items
    let xs := parseItems items
    let p := (encContents xs).take cut.toNat!
    let r := decContents p
    let bad : Bool := match (words impl) with
      | ["err"] => false
      | ["ok", got] => !(isPrefixOf (if got == "-" then [] else (got.splitOn ",")) (xs.map canon))
      | _ => true
    { model := okItems r, monitor := if bad then ["prefix_never_resplits"] else [],
      tags := ["trunc", if r.isSome then "trunc-ok" else "trunc-err"] }
  | ["utpenc", v, bs] =>
    { model := "ok " ++ canon (utpEnc v.toNat! (parseBytes bs)), tags := ["utpenc", "v" ++ v] }
  | ["utpdec", v, bs] =>
    let r := utpDec v.toNat! (parseBytes bs)
    let m := match r with | some c => "ok " ++ canon c | none => "err"
    -- single_exact: an accepted v1 stream is header ++ content with the header decoding to |content|
    let b := parseBytes bs
    let bad : Bool := v == "1" && match words impl with
      | ["ok", c] => !(canon (b.drop (b.length - (match r with | some c' => c'.length | none => 0))) == c
                      && r.isSome)
      | _ => false
    { model := m, monitor := if bad then ["single_exact"] else [], tags := ["utpdec", "v" ++ v, if r.isSome then "utpdec-ok" else "utpdec-err"] }
  | ["utprt", v, bs] =>
    let b := parseBytes bs
    let m := if utpDec v.toNat! (utpEnc v.toNat! b) == some b then "same" else "diff"
    { model := m, monitor := if impl == "same" then [] else ["utp_roundtrip"], tags := ["utprt", "v" ++ v] }
  | _ => { model := "bad-op", tags := ["bad-op"], nontrivial := false }

end Drv.C15
