import Shisui.FindNodes
import Driver.Util
/-! C11 driver. Responder (`handleFindNodes`): a decidable relation, because every bucket is shuffled — walking the
    requested distances (repeats and values above 256 dropped) the reply must be a concatenation of duplicate-free
    selections from each distance's candidate set (self for 0; verified entries of `bucketAtDistance d`; relay-safe for
    the asker), each segment complete unless the reply ends inside it, within the size budget, and maximal.
    Asker (`processNodes`/`filterNodes`): step equality with `Fnn.filterNodes`. -/
namespace Drv.C11
open Drv

open Fnr

/-- maxPacketSize − talkRespOverhead − (msg id + total + container offset) -/
def budget : Nat := 1280 - 103 - 6

def parseTab (s : String) : List TN :=
  if s == "-" then [] else (s.splitOn ",").map fun e =>
    let p := e.splitOn ":"
    ({ id := (p.getD 0 "").toNat!, bucket := (p.getD 1 "").toNat!, live := p.getD 2 "" == "1", cls := p.getD 3 "", size := (p.getD 4 "").toNat! } : TN)

def parseNats (s : String) : List Nat := if s == "-" || s == "" then [] else (s.splitOn ",").filterMap String.toNat?

def stepResponder (toks : List String) (impl : String) : Res :=
  let asker := kv toks "asker"
  let sp := (kv toks "self").splitOn ":"
  let selfN : TN := { id := 0, bucket := 999, live := true, cls := sp.getD 0 "", size := (sp.getD 1 "0").toNat! }
  let dists := parseNats (kv toks "dists")
  let tab := parseTab (kv toks "tab")
  let it := words impl
  if it.length < 3 then { model := "", skipCompare := true, monitor := ["reply_wellformed"], tags := ["findnodes", "err"] } else
  let res := parseNats (kv it "ids")
  let len := kvNat it "len"
  let segs := (cleanDists dists []).map (cands tab selfN asker)
  let c := consume segs res
  let sizeOf (i : Nat) : Nat := if i = 0 then selfN.size else ((tab.find? (·.id == i)).map (·.size)).getD 0
  let used := (res.map (fun i => sizeOf i + 4)).foldl (· + ·) 0
  let nextSeg := (c.2.find? (fun s => !s.isEmpty)).getD []
  let maximal := nextSeg.isEmpty || res.length ≥ 32 || nextSeg.any (fun n => used + n.size + 4 > budget)
  let candAll := segs.flatten
  let mon := (if len + 103 > 1280 then ["fits_one_packet"] else [])
    ++ (if res.length > 32 then ["at_most_32"] else [])
    ++ (if res.any (fun i => !(candAll.any (·.id == i))) then ["only_self_or_live_covered_relay_safe"] else [])
    ++ (if !c.1 then ["segments_in_request_order"] else [])
    ++ (if used > budget then ["size_budget"] else [])
    ++ (if c.1 && !maximal then ["reply_maximal"] else [])
    ++ (if kv it "total" != "1" then ["total_is_one"] else [])
  { model := "", skipCompare := true, monitor := mon,
    tags := ["findnodes", "asker-" ++ asker, s!"res{min res.length 17}", if dists.contains 0 then "d0" else "nod0",
             if !nextSeg.isEmpty then "truncated" else "complete"],
    nontrivial := !res.isEmpty }

def stepAsker (toks : List String) (impl : String) : Res :=
  let req := parseNats (kv toks "req")
  let recsS := kv toks "recs"
  let recs : List (Nat × Fnn.Rec) := if recsS == "-" then [] else
    (recsS.splitOn ",").zipIdx.map fun (e, j) =>
      let p := e.splitOn ":"
      -- idIdx:signed:dist:port:class:senderClass:relayGo:onAllowList
      (j, ({ id := (p.getD 0 "").toNat!, signed := p.getD 1 "" == "1", relayOk := relayOk (p.getD 5 "") (p.getD 4 ""),
             inNetrestrict := p.getD 7 "1" == "1", udp := (p.getD 3 "").toNat!, dist := (p.getD 2 "").toNat! } : Fnn.Rec))
  -- the Lean rendering of CheckRelayIP by class must agree with the real function
  let relayMis := if recsS == "-" then false else (recsS.splitOn ",").any fun e =>
      let p := e.splitOn ":"
      p.getD 1 "" == "1" && (relayOk (p.getD 5 "") (p.getD 4 "") != (p.getD 6 "" == "1"))
  let accepted := Fnn.filterNodes (some req) [] (recs.map (·.2))
  -- accepted records are reported by id index (= position of the first record carrying that id)
  let accPos := accepted.map (·.id)
  let m := "accepted=" ++ (if accPos.isEmpty then "-" else ",".intercalate (accPos.map toString))
  -- the property's clause on the implementation's own answer: every record it used must be signed, at a requested
  -- distance, relay-safe, on a port above 1024, and used once
  let implAcc := parseNats ((impl.splitOn "=").getD 1 "")
  let okRec (id : Nat) : Bool := recs.any fun p => p.2.id == id && p.2.signed && p.2.relayOk && p.2.udp > 1024 && req.contains p.2.dist
  let bad := impl.startsWith "accepted=" && (implAcc.any (fun id => !okRec id) || implAcc.eraseDups.length != implAcc.length)
  { model := m, monitor := (if relayMis then ["relay_class_rendering"] else []) ++ (if bad then ["record_used_only_if"] else []),
    tags := ["nodesresp", s!"acc{accepted.length}", s!"n{recs.length}", if req.isEmpty then "req-empty" else "req-some"], nontrivial := recs.length ≥ 2 }

def step (toks : List String) (impl : String) : Res :=
  match toks.head? with
  | some "findnodes" => stepResponder toks impl
  | some "nodesresp" => stepAsker toks impl
  | some "fnseeding" =>
    -- the table is still seeding: its boot nodes were never liveness-checked, so none of them is offered
    { model := "offered=0", monitor := if impl == "offered=0" then [] else ["only_liveness_checked_entries_while_seeding"],
      tags := ["fnseeding", s!"intable{kvNat toks "intable"}"] }
  | some "concfindnodes" =>
    -- replies built at the same time for askers with different distances: each holds only records at ITS requested distance
    { model := "badreplies=0 badrecords=0",
      monitor := if impl == "badreplies=0 badrecords=0" then [] else ["only_requested_distances_when_asked_concurrently"],
      tags := ["concfindnodes"] }
  | _ => { model := "bad-op", tags := ["bad-op"], nontrivial := false }

end Drv.C11
