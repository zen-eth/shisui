import Shisui.Gossip
import Shisui.RadiusCache
import Driver.Util
/-! C20 driver: gossip target selection (decidable relation, because the farther covered nodes are shuffled) and the
    radius cache under ping/pong reports (step equality, stateful per peer). -/
namespace Drv.C20
open Drv

structure RD where
  net : String := ""
  member : Bool := false
  cache : Option String := none    -- radius bytes (hex) as cached

def parseNats (s : String) : List Nat := if s == "-" || s == "" then [] else (s.splitOn ",").filterMap String.toNat?

def stepGossip (toks : List String) (impl : String) : Res :=
  let cs := kv toks "closest"
  let entries : List (Nat × Nat × Bool × Bool) := if cs == "-" then [] else (cs.splitOn ",").map fun e =>
    let p := e.splitOn ":"
    ((p.getD 0 "").toNat!, (p.getD 1 "").toNat!, p.getD 2 "" == "1", p.getD 3 "" == "1")
  let srcS := kv toks "src"
  let src : Option Nat := if srcS == "-1" then none else some srcS.toNat!
  let c : Gs.Ctx := { closest := entries.map (·.1),
                      radius := fun n => match entries.find? (·.1 == n) with | some e => if e.2.2.1 then some 1 else none | none => none,
                      covers := fun n _ => match entries.find? (·.1 == n) with | some e => e.2.2.2 | none => false,
                      src := src }
  let it := words impl
  let res := parseNats (kv it "peers")
  let cov := Gs.covered c
  let lds := entries.map (·.2.1)
  let sortedIn := (lds.zip (lds.drop 1)).all fun p => p.1 ≤ p.2
  let tablen := kvNat toks "tablen"
  let mon := (if it.headD "" == "error" then ["gossip_error"] else
      (if res.length > 8 then ["at_most_eight"] else [])
      ++ (if (match src with | some s => res.contains s | none => false) || kv it "srcqueued" == "1" then ["never_back_to_source"] else [])
      ++ (if res.any (fun n => !cov.contains n) then ["only_covered_known_radius"] else [])
      ++ (if (cov.take 4).any (fun n => !res.contains n) then ["four_closest_included"] else [])
      ++ (if !Gs.allowedB c res then ["selection_rule"] else [])
      ++ (if kvNat it "queued" != res.length then ["whole_batch_offered_to_each"] else [])
      ++ (if !sortedIn || entries.length != min 32 tablen then ["closest_32_by_logdist"] else []))
  { model := "", skipCompare := true, monitor := mon,
    tags := ["gossip", s!"cov{min cov.length 9}", s!"res{res.length}", match src with | none => "src-none" | some 0 => "src-stranger" | some _ => "src-table"],
    nontrivial := cov.length > 0 }

/-- radius-carrying payload types supported per network (ping_extension.go) -/
def supportedType (net : String) (t : Nat) : Bool :=
  if net == "history" then t == 0 || t == 2 else t == 0 || t == 1

def stepRadius (d : RD) (toks : List String) (impl : String) : RD × Res :=
  match toks.head? with
  | some "rpeer" => ({ net := kv toks "net", member := kv toks "member" != "none", cache := none }, { model := "ok", tags := ["rpeer"], nontrivial := false })
  | some "revent" =>
    let t := kvNat toks "type"
    let member := kv toks "member" != "none"
    let rep : Rc.Report := { member := member, supported := supportedType d.net t, wellFormed := kv toks "malformed" == "0", radius := 0 }
    let cache' := if Rc.applies rep then some (kv toks "radius") else d.cache
    let it := words impl
    let cs := match cache' with | some h => h | none => "none"
    -- the pong answering a ping: error payload for unsupported types and undecodable payloads, else the same type
    let kind := kv toks "kind"
    let expectPong := if !(d.net == "history" && (t == 0 || t == 2 || t == 65535) || d.net != "history" && (t == 0 || t == 1 || t == 65535)) then 65535
                      else if t == 65535 then 65535 else if kv toks "malformed" == "1" then 65535 else t
    let first := if kind == "ping" then s!"pongtype={expectPong}"
                 else if !member then "ok"       -- peers outside the table are ignored without error
                 else if Rc.applies rep then "ok" else "err"
    let mon := if kv it "cache" != cs then ["radius_is_last_report"] else []
    let out : Res := { model := s!"{first} cache={cs}", monitor := mon,
                       tags := ["revent", kind, s!"type{t}", if Rc.applies rep then "applied" else "ignored", if member then "member" else "stranger"] }
    ({ d with cache := cache' }, out)
  | some "raddenr" =>
    -- AddEnr of a record: a node that enters the table by this call starts with the maximum radius; a node that was in the
    -- table already keeps what it last reported
    let entered := kv toks "before" == "none" && kv toks "member" == "entry"
    let cache' := if entered then some (String.ofList (List.replicate 64 'f')) else d.cache
    let cs := match cache' with | some h => h | none => "none"
    let out : Res := { model := s!"cache={cs}", monitor := if impl != s!"cache={cs}" && !entered then ["radius_is_last_report"] else [],
                       tags := ["raddenr", if entered then "entered" else "known"] }
    ({ d with cache := cache' }, out)
  | some "rpingfail" =>
    -- a liveness ping of ours that the peer did not answer: no radius was reported, the cache entry stays as it is
    let cs := match d.cache with | some h => h | none => "none"
    let it := words impl
    let out : Res := { model := s!"err cache={cs}", monitor := if kv it "cache" != cs then ["radius_is_last_report"] else [],
                       tags := ["rpingfail"] }
    (d, out)
  | some "rcontentenrs" =>
    -- a FINDCONTENT answer of the closer-nodes kind from this peer: no radius was reported, the cache entry stays as it is
    let cs := match d.cache with | some h => h | none => "none"
    let it := words impl
    let out : Res := { model := s!"ok cache={cs}", monitor := if kv it "cache" != cs then ["radius_is_last_report"] else [],
                       tags := ["rcontentenrs", if kv toks "before" == "none" && kv toks "member" != "none" then "entered" else "same-membership"] }
    (d, out)
  | some "rwire" =>
    -- one ping through the real handler (asynchronous processing, polled): applied iff member and supported type
    let t := kvNat toks "type"
    let applied := kv toks "member" != "none" && supportedType d.net t
    let cache' := if applied then some (kv toks "radius") else d.cache
    let out : Res := { model := s!"updated={if applied then 1 else 0}",
                       monitor := if applied && impl != "updated=1" then ["radius_is_last_report"] else [], tags := ["rwire", s!"type{t}"] }
    ({ d with cache := cache' }, out)
  | _ => (d, { model := "bad-op", tags := ["bad-op"], nontrivial := false })

def step (d : RD) (toks : List String) (impl : String) : RD × Res :=
  match toks.head? with
  | some "gossip" => (d, stepGossip toks impl)
  | _ => stepRadius d toks impl

end Drv.C20
