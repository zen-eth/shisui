-- Hashes (models)
import Shisui.Sha256
import Shisui.Keccak256
-- Constants regenerated from the repository
import Shisui.Gen.Consts
-- Content store (C04 C05 C06 C17)
import Shisui.Beorder
import Shisui.Store.Basic
import Shisui.Store.Crash
import Shisui.Store.Refinement
import Shisui.Store.Concurrent
import Shisui.Store.Exec
import Shisui.Store.ExecIdeal
-- Routing table (C07 C18)
import Shisui.Table.Model
import Shisui.Table.Inv
import Shisui.Table.Equations
import Shisui.Table.Ops
import Shisui.Table.Reval
import Shisui.Table.Policy
-- Framing, replies, versions (C08 C11 C15 C19)
import Shisui.Varint
import Shisui.Leb
import Shisui.Framing
import Shisui.PacketSize
import Shisui.FindContent
import Shisui.FindNodes
import Shisui.Versions
-- Offers, lookups, permits, gossip (C09 C10 C16 C20)
import Shisui.Bitlist
import Shisui.Offer
import Shisui.OfferLifecycle
import Shisui.LookupResult
import Shisui.Lookup
import Shisui.Permits
import Shisui.PermitsFlow
import Shisui.Gossip
import Shisui.RadiusCache
-- Merkle branches, header proofs, light client (C03 C12)
import Shisui.Merkle
import Shisui.HeaderProof
import Shisui.LightClient
import Shisui.LightClientSeq
-- History content (C02)
import Shisui.HistoryValidation
import Shisui.History.Content
import Shisui.History.Gate
-- State tries (C13)
import Shisui.Trie.Basic
import Shisui.Trie.Tagged
import Shisui.Trie.Chain
import Shisui.Trie.Rlp
import Shisui.Trie.Validate
import Shisui.Trie.ValidateThm
-- SSZ wire messages (C14)
import Shisui.Ssz.Dyn
import Shisui.Ssz.Container
import Shisui.Ssz.Wire
import Shisui.Ssz.Schemas
import Shisui.Ssz.WireField
import Shisui.Ssz.WireSlots
import Shisui.Ssz.WireTy
-- Talk dispatch (C01)
import Shisui.Dispatch
import Shisui.DispatchVal
-- Property theorems
import Shisui.Props.C01
import Shisui.Props.C02
import Shisui.Props.C03
import Shisui.Props.C04
import Shisui.Props.C05
import Shisui.Props.C06
import Shisui.Props.C07
import Shisui.Props.C08
import Shisui.Props.C09
import Shisui.Props.C10
import Shisui.Props.C11
import Shisui.Props.C12
import Shisui.Props.C13
import Shisui.Props.C14
import Shisui.Props.C15
import Shisui.Props.C16
import Shisui.Props.C17
import Shisui.Props.C18
import Shisui.Props.C19
import Shisui.Props.C20
-- Model constants against the regenerated ones
import Shisui.Inst.C04
import Shisui.Inst.C07
import Shisui.Inst.C08
import Shisui.Inst.C09
import Shisui.Inst.C10
import Shisui.Inst.C16
import Shisui.Inst.C19
import Shisui.Inst.C20
